import EventppVerif.Q.OrdAux
/-
  Evaluation aid for the non-vacuity examples of the ordered queue.

  `List.mergeSort` is defined by well-founded recursion, which the kernel cannot evaluate, so
  `decide +kernel` gets stuck on runs of `QCfg.runN` with `ordered = some _`.  This file
  * defines a structurally recursive stable insertion sort `isort` and proves
    `mergeSort l le = isort le l` for every total, transitive `le` (from `List.mergeSort_cons`);
  * defines `Gen.*`: a verbatim copy of the machine functions of Q/Machine.lean that mention
    `settle`, with the settling function as a parameter `σ`;
  * proves `Gen.runN settle = QCfg.runN` (by `rfl` on every function) and hence
    `QCfg.runN = Gen.runN isettle` (`runN_eq_eval`), whose right-hand side the kernel evaluates.
-/
namespace Evp.Q
open QCfg

def insertSorted {α} (le : α → α → Bool) (a : α) : List α → List α
  | [] => [a]
  | b :: l => if le a b then a :: b :: l else b :: insertSorted le a l

def isort {α} (le : α → α → Bool) : List α → List α
  | [] => []
  | a :: l => insertSorted le a (isort le l)

theorem insertSorted_append {α} (le : α → α → Bool) (a : α) :
    ∀ (l₁ l₂ : List α), (∀ b ∈ l₁, le a b = false) → (∀ b ∈ l₂, le a b = true) →
      insertSorted le a (l₁ ++ l₂) = l₁ ++ a :: l₂
  | [], [], _, _ => rfl
  | [], b :: r, _, h₂ => by simp [insertSorted, h₂ b List.mem_cons_self]
  | x :: l₁, l₂, h₁, h₂ => by
    have := insertSorted_append le a l₁ l₂ (fun b hb => h₁ b (List.mem_cons_of_mem _ hb)) h₂
    simp [insertSorted, h₁ x List.mem_cons_self, this]

theorem mergeSort_eq_isort {α} (le : α → α → Bool)
    (trans : ∀ (a b c : α), le a b → le b c → le a c)
    (total : ∀ (a b : α), le a b || le b a) :
    ∀ (l : List α), l.mergeSort le = isort le l
  | [] => by simp [isort]
  | a :: l => by
    obtain ⟨l₁, l₂, h₁, h₂, h₃⟩ := List.mergeSort_cons trans total a l
    have hs := List.pairwise_mergeSort trans total (a :: l)
    rw [h₁, List.pairwise_append] at hs
    have ih := mergeSort_eq_isort le trans total l
    rw [h₁]
    show _ = insertSorted le a (isort le l)
    rw [← ih, h₂]
    refine (insertSorted_append le a l₁ l₂ ?_ ?_).symm
    · intro b hb; simpa using h₃ b hb
    · intro b hb; exact List.rel_of_pairwise_cons hs.2.1 hb

def isettle (ord : Option Bool) (l : List Slot) : List Slot :=
  match ord with
  | none => l
  | some asc => isort (slotLe asc) l

theorem isettle_eq : isettle = settle := by
  funext o l
  cases o with
  | none => rfl
  | some asc =>
    show isort (slotLe asc) l = l.mergeSort (slotLe asc)
    exact (mergeSort_eq_isort _ (slotLe_trans asc) (slotLe_total asc) l).symm

namespace Gen

def finishProc (σ : Option Bool → List Slot → List Slot) (c : QCfg) (mode : PMode) (kept idle : List Slot) (below : List QFrame) : QCfg :=
  let q := if kept.isEmpty then c.queue else σ c.ordered (kept ++ c.queue)
  let f := if idle.isEmpty then c.free else σ c.ordered (c.free ++ idle)
  let r := match mode with
    | .all | .one => true
    | .ifp _ | .untilp _ => !idle.isEmpty
  ({ c with queue := q, free := f, ec := c.ec - 1 }).deliver (.bool r) below

def procNext (σ : Option Bool → List Slot → List Slot) (b : QBeh) (c : QCfg) (mode : PMode) (todo kept idle : List Slot) (below : List QFrame) : QCfg :=
  match todo with
  | [] => finishProc σ c mode kept idle below
  | s :: rest =>
    match s.ev with
    | none => finishProc σ c mode (kept ++ s :: rest) idle below  -- unreachable: slot discipline
    | some e =>
      match mode with
      | .all | .one =>
        nextFilter b c e.key e.arg c.filters (.proc mode (s :: rest) kept idle .disp :: below)
      | .ifp p | .untilp p =>
        let call : QCall := ⟨.pred, e.key, 0, p, e.arg⟩
        { c with trace := .call call :: c.trace
                 stack := .prog (callProg b c call) :: .proc mode (s :: rest) kept idle .pred :: below }

def endDispatch (σ : Option Bool → List Slot → List Slot) (b : QBeh) (c : QCfg) (below : List QFrame) : QCfg :=
  match below with
  | .proc mode (s :: rest) kept idle .disp :: below' =>
    -- `item.clear()`, then the slot waits in tempList/idleList for recycling
    let c' := match s.ev with
      | some e => c.push (.consumed e.seq 0)
      | none => c
    procNext σ b c' mode rest kept (idle ++ [{ s with ev := none }]) below'
  | _ => c.deliver .unit below

def apply (σ : Option Bool → List Slot → List Slot) (c : QCfg) : QCmd → QCfg × QRes
  | .listen key cb =>
    ({ c with lists := upd c.lists key ((c.lists key).append c.nextId cb), nextId := c.nextId + 1 }, .handle c.nextId)
  | .listenFront key cb =>
    ({ c with lists := upd c.lists key ((c.lists key).prepend c.nextId cb), nextId := c.nextId + 1 }, .handle c.nextId)
  | .listenBefore key cb h =>
    if c.foreign key h then (c, .unit) else
    ({ c with lists := upd c.lists key ((c.lists key).insert c.nextId cb h), nextId := c.nextId + 1 }, .handle c.nextId)
  | .unlisten key h =>
    if c.foreign key h then (c, .unit) else
    let (l', r) := (c.lists key).remove h
    ({ c with lists := upd c.lists key l' }, .bool r)
  | .hasAny key => (c, .bool (!(c.lists key).isEmpty))
  | .addFilter f =>
    ({ c with filters := c.filters.append c.nextId f, nextId := c.nextId + 1 }, .handle c.nextId)
  | .removeFilter h =>
    let (l', r) := c.filters.remove h
    ({ c with filters := l' }, .bool r)
  | .enqueue key arg =>
    -- doEnqueue: recycle the first free slot or make a new one, `set`, splice to the back
    let ev : QEvent := ⟨c.nextSeq, key, arg⟩
    match c.free with
    | s :: fr =>
      ({ c with free := fr, queue := σ c.ordered (c.queue ++ [{ s with ev := some ev }]),
                nextSeq := c.nextSeq + 1 }, .unit)
    | [] =>
      ({ c with queue := σ c.ordered (c.queue ++ [⟨c.nextSlot, some ev⟩]), nextSlot := c.nextSlot + 1,
                nextSeq := c.nextSeq + 1 }, .unit)
  | .peek =>
    match c.queue with
    | s :: _ => (match s.ev with
      | some e => (c, .ev e.key e.arg)
      | none => (c, .bool false))
    | [] => (c, .bool false)
  | .take =>
    match c.queue with
    | s :: r => (match s.ev with
      | some e =>
        (({ c with queue := r, free := σ c.ordered (c.free ++ [{ s with ev := none }]) }).push (.consumed e.seq 1),
          .ev e.key e.arg)
      | none => (c, .bool false))
    | [] => (c, .bool false)
  | .clear =>
    if c.queue.isEmpty then (c, .unit) else
    let evs := c.queue.filterMap (·.ev)
    ({ c with queue := [], free := σ c.ordered (c.free ++ c.queue.map (fun s => { s with ev := none })),
              trace := (evs.map (fun e => QEv.consumed e.seq 2)).reverse ++ c.trace }, .unit)
  | .emptyq => (c, .bool c.emptyQueue)
  | .dispatch _ _ => (c, .unit)
  | .process => (c, .unit)
  | .processOne => (c, .unit)
  | .processIf _ => (c, .unit)
  | .processUntil _ => (c, .unit)

def startProc (σ : Option Bool → List Slot → List Slot) (b : QBeh) (c : QCfg) (mode : PMode) (k : QRes → QProg) (rest : List QFrame) : QCfg :=
  if c.queue.isEmpty then { c with stack := .prog (k (.bool false)) :: rest, trace := .res (.bool false) :: c.trace }
  else
    let (todo, q) := match mode with
      | .one => (c.queue.take 1, c.queue.drop 1)
      | _ => (c.queue, [])
    procNext σ b { c with queue := q, ec := c.ec + 1 } mode todo [] [] (.wait k :: rest)

def step (σ : Option Bool → List Slot → List Slot) (b : QBeh) (c : QCfg) : Option QCfg :=
  match c.stack with
  | [] => none
  | .prog (.ret v) :: .filt key arg rest cur :: below =>
    if v then some (nextFilter b c key (b.rewrite cur arg) rest below)
    else some { c with stack := .done :: below }
  | .prog (.ret _) :: .iter key arg rest :: below =>
    if b.cont arg then some (nextListener b c key arg rest below)
    else some { c with stack := .done :: below }
  | .prog (.ret v) :: .proc mode (s :: rest) kept idle .pred :: below =>
    (match mode, s.ev with
    | .ifp _, some e =>
      if v then some (nextFilter b c e.key e.arg c.filters (.proc mode (s :: rest) kept idle .disp :: below))
      else some (procNext σ b c mode rest (kept ++ [s]) idle below)
    | .untilp _, some e =>
      if v then some (finishProc σ c mode (kept ++ s :: rest) idle below)
      else some (nextFilter b c e.key e.arg c.filters (.proc mode (s :: rest) kept idle .disp :: below))
    | _, _ => none)
  | .prog (.ret _) :: rest => some { c with stack := rest }
  | .prog (.op (.dispatch key arg) k) :: rest =>
    some (nextFilter b c key arg c.filters (.wait k :: rest))
  | .prog (.op .process k) :: rest => some (startProc σ b c .all k rest)
  | .prog (.op .processOne k) :: rest => some (startProc σ b c .one k rest)
  | .prog (.op (.processIf p) k) :: rest => some (startProc σ b c (.ifp p) k rest)
  | .prog (.op (.processUntil p) k) :: rest => some (startProc σ b c (.untilp p) k rest)
  | .prog (.op cmd k) :: rest =>
    let (c', r) := apply σ c cmd
    some { c' with stack := .prog (k r) :: rest, trace := .res r :: c'.trace }
  | .done :: below => some (endDispatch σ b c below)
  | .wait _ :: _ => none
  | .filt _ _ _ _ :: _ => none
  | .iter _ _ _ :: _ => none
  | .proc _ _ _ _ _ :: _ => none

def runN (σ : Option Bool → List Slot → List Slot) (b : QBeh) : Nat → QCfg → QCfg × Bool
  | 0, c => (c, c.stack.isEmpty)
  | n + 1, c => match step σ b c with
    | none => (c, c.stack.isEmpty)
    | some c' => runN σ b n c'

theorem finishProc_eq (c mode kept idle below) :
    finishProc settle c mode kept idle below = QCfg.finishProc c mode kept idle below := rfl

theorem procNext_eq (b c mode todo kept idle below) :
    procNext settle b c mode todo kept idle below = QCfg.procNext b c mode todo kept idle below := rfl

theorem endDispatch_eq (b c below) :
    endDispatch settle b c below = QCfg.endDispatch b c below := rfl

theorem startProc_eq (b c mode k rest) :
    startProc settle b c mode k rest = QCfg.startProc b c mode k rest := rfl

theorem step_eq (b : QBeh) (c : QCfg) : step settle b c = QCfg.step b c := by
  unfold step QCfg.step
  rfl

theorem runN_eq (b : QBeh) : ∀ (n : Nat) (c : QCfg), runN settle b n c = QCfg.runN b n c
  | 0, _ => rfl
  | n + 1, c => by
    simp only [runN, QCfg.runN, step_eq]
    cases QCfg.step b c with
    | none => rfl
    | some c' => exact runN_eq b n c'

end Gen

/-- the machine, in a form the kernel can evaluate -/
theorem runN_eq_eval (b : QBeh) (n : Nat) (c : QCfg) : QCfg.runN b n c = Gen.runN isettle b n c := by
  rw [isettle_eq, Gen.runN_eq]

end Evp.Q
