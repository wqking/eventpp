import EventppVerif.Q.InvProofs
/-
  OrderedQueueList (C13): the sorted-queue invariant of the queue machine.  Events are dispatched in
  the order `lexLe` (comparator order, ties by enqueue sequence number); the stable re-sort `settle`
  of a list whose ties are already in enqueue order yields it.  The invariant `SI` speaks of the view
  of a configuration only (Q/Inv.lean), and every machine step is a sequence of view transitions, so
  it is enough that each `VStep` preserves it.
-/
namespace Evp.Q
open QCfg

/-- event `x` is dispatched before event `y`: strictly before in comparator order, or equal keys and
    enqueued earlier -/
def evBefore (asc : Bool) (x y : QEvent) : Prop :=
  (if asc then x.key < y.key else y.key < x.key) ∨ (x.key = y.key ∧ x.seq < y.seq)

instance (asc : Bool) (x y : QEvent) : Decidable (evBefore asc x y) := by
  unfold evBefore; infer_instance

/-- both slots are occupied and `a`'s event is dispatched before `b`'s: a strict order (it is
    `evBefore`), the `Le` of its name notwithstanding -/
def lexLe (asc : Bool) (a b : Slot) : Prop :=
  match a.ev, b.ev with
  | some x, some y => evBefore asc x y
  | _, _ => False

instance (asc : Bool) (a b : Slot) : Decidable (lexLe asc a b) := by
  unfold lexLe; split <;> infer_instance

theorem lexLe_iff {asc : Bool} {a b : Slot} :
    lexLe asc a b ↔ ∃ x y, a.ev = some x ∧ b.ev = some y ∧ evBefore asc x y := by
  unfold lexLe
  split
  · next x y hx hy => simp [hx, hy]
  · next h =>
    constructor
    · intro h; exact h.elim
    · rintro ⟨x, y, hx, hy, -⟩; exact h x y hx hy

/-- equal keys ⇒ enqueue order (vacuous on empty slots) -/
def tieOK (a b : Slot) : Prop :=
  ∀ x y, a.ev = some x → b.ev = some y → x.key = y.key → x.seq < y.seq

theorem lexLe.tieOK {asc : Bool} {a b : Slot} (h : lexLe asc a b) : tieOK a b := by
  obtain ⟨x, y, hx, hy, hb⟩ := lexLe_iff.1 h
  intro x' y' hx' hy' hk
  rw [hx] at hx'; rw [hy] at hy'
  cases hx'; cases hy'
  rcases hb with hb | hb
  · cases asc <;> exact absurd hb (hk ▸ Nat.lt_irrefl _)
  · exact hb.2

theorem slotLe_trans (asc : Bool) (a b c : Slot) :
    slotLe asc a b = true → slotLe asc b c = true → slotLe asc a c = true := by
  unfold slotLe
  -- an empty slot is below everything, an occupied one is not below an empty one
  cases a.ev <;> cases b.ev <;> cases c.ev <;> try (intros; first | rfl | contradiction)
  cases asc
  · simp only [Bool.false_eq_true, if_false, decide_eq_true_eq]; exact fun h1 h2 => Nat.le_trans h2 h1
  · simp only [if_true, decide_eq_true_eq]; exact Nat.le_trans

theorem slotLe_total (asc : Bool) (a b : Slot) : (slotLe asc a b || slotLe asc b a) = true := by
  unfold slotLe
  cases a.ev <;> cases b.ev <;> try rfl
  cases asc
  · simp only [Bool.false_eq_true, if_false, Bool.or_eq_true, decide_eq_true_eq]; exact Nat.le_total _ _
  · simp only [if_true, Bool.or_eq_true, decide_eq_true_eq]; exact Nat.le_total _ _

theorem lexLe_of_not_slotLe {asc : Bool} {a b : Slot} {x y : QEvent} (ha : a.ev = some x)
    (hb : b.ev = some y) (h : slotLe asc a b = false) : lexLe asc b a := by
  rw [lexLe_iff]
  refine ⟨y, x, hb, ha, .inl ?_⟩
  unfold slotLe at h
  rw [ha, hb] at h
  cases asc <;> exact Nat.lt_of_not_le (of_decide_eq_false h)

theorem lexLe_of_slotLe_tie {asc : Bool} {a b : Slot} {x y : QEvent} (ha : a.ev = some x)
    (hb : b.ev = some y) (h : slotLe asc a b = true) (ht : tieOK a b) : lexLe asc a b := by
  rw [lexLe_iff]
  refine ⟨x, y, ha, hb, ?_⟩
  unfold slotLe at h
  rw [ha, hb] at h
  by_cases hk : x.key = y.key
  · exact .inr ⟨hk, ht x y ha hb hk⟩
  · cases asc
    · exact .inl (Nat.lt_of_le_of_ne (of_decide_eq_true h) (Ne.symm hk))
    · exact .inl (Nat.lt_of_le_of_ne (of_decide_eq_true h) hk)

theorem pairwise_lexLe_mergeSort (asc : Bool) :
    ∀ (l : List Slot), (∀ s ∈ l, ∃ e, s.ev = some e) → l.Pairwise tieOK →
      (l.mergeSort (slotLe asc)).Pairwise (lexLe asc)
  | [], _, _ => by simp
  | a :: l, hocc, htie => by
    obtain ⟨l₁, l₂, h₁, h₂, h₃⟩ := List.mergeSort_cons (slotLe_trans asc) (slotLe_total asc) a l
    have ih := pairwise_lexLe_mergeSort asc l (fun s hs => hocc s (List.mem_cons_of_mem _ hs))
      (List.Pairwise.of_cons htie)
    have hsorted := List.pairwise_mergeSort (slotLe_trans asc) (slotLe_total asc) (a :: l)
    rw [h₁] at hsorted ⊢
    rw [h₂] at ih
    have hmem : ∀ s, s ∈ l₁ ++ l₂ → s ∈ l := by
      intro s hs; rw [← h₂] at hs; exact List.mem_mergeSort.1 hs
    obtain ⟨xa, hxa⟩ := hocc a (List.mem_cons_self)
    rw [List.pairwise_append] at ih hsorted ⊢
    obtain ⟨ih1, ih2, ih3⟩ := ih
    obtain ⟨-, hs2, -⟩ := hsorted
    have hatail : ∀ s ∈ l₂, lexLe asc a s := by
      intro s hs
      have hsl : s ∈ l := hmem s (List.mem_append_right _ hs)
      obtain ⟨xs, hxs⟩ := hocc s (List.mem_cons_of_mem _ hsl)
      exact lexLe_of_slotLe_tie hxa hxs (List.rel_of_pairwise_cons hs2 hs)
        (List.rel_of_pairwise_cons htie hsl)
    refine ⟨ih1, List.pairwise_cons.2 ⟨hatail, ih2⟩, ?_⟩
    intro s hs t ht
    rcases List.mem_cons.1 ht with rfl | ht
    · have hsl : s ∈ l := hmem s (List.mem_append_left _ hs)
      obtain ⟨xs, hxs⟩ := hocc s (List.mem_cons_of_mem _ hsl)
      have := h₃ s hs
      simp at this
      exact lexLe_of_not_slotLe hxa hxs this
    · exact ih3 s hs t ht

/-- The sortedness invariant over (queue, processing calls, innermost first): over the concatenation
    "calls oldest first (`pendV`), then the queue" ties are in enqueue order (`tieOK`); the queue and
    every call's `kept ++ todo` are sorted by `lexLe`.  That these slots are occupied, by events with
    `seq < nextSeq`, is `VInv`. -/
structure SI (asc : Bool) (q : List Slot) (fs : List PFrame) : Prop where
  tie : (pendV fs ++ q).Pairwise tieOK
  qsorted : q.Pairwise (lexLe asc)
  fsorted : ∀ f ∈ fs, (f.kept ++ f.todo).Pairwise (lexLe asc)

theorem SI.of_sublist {asc q fs q' fs'} (h : SI asc q fs)
    (hsub : (pendV fs' ++ q').Sublist (pendV fs ++ q))
    (hq : q'.Pairwise (lexLe asc)) (hf : ∀ f ∈ fs', (f.kept ++ f.todo).Pairwise (lexLe asc)) :
    SI asc q' fs' :=
  ⟨h.tie.sublist hsub, hq, hf⟩

theorem SI.resort {asc fs} {Y : List Slot} (hocc : ∀ s ∈ Y, s.ev.isSome)
    (htie : (pendV fs ++ Y).Pairwise tieOK)
    (hf : ∀ f ∈ fs, (f.kept ++ f.todo).Pairwise (lexLe asc)) :
    SI asc (settle (some asc) Y) fs := by
  rw [List.pairwise_append] at htie
  have hsorted := pairwise_lexLe_mergeSort asc Y (fun s hs => Option.isSome_iff_exists.1 (hocc s hs)) htie.2.1
  refine ⟨?_, hsorted, hf⟩
  rw [List.pairwise_append]
  exact ⟨htie.1, hsorted.imp (fun h => h.tieOK), fun a ha b hb => htie.2.2 a ha b (mem_settle.1 hb)⟩

theorem SI.tail {asc q f fs} (h : SI asc q (f :: fs)) :
    ∀ g ∈ fs, (g.kept ++ g.todo).Pairwise (lexLe asc) :=
  fun g hg => h.fsorted g (List.mem_cons_of_mem _ hg)

theorem SI.reframe {asc q fs} {f g : PFrame} (h : SI asc q (f :: fs))
    (hs : (g.kept ++ g.todo).Sublist (f.kept ++ f.todo)) : SI asc q (g :: fs) := by
  refine h.of_sublist ((List.Sublist.refl _).append hs |>.append (List.Sublist.refl _)) h.qsorted ?_
  intro g' hg
  rcases List.mem_cons.1 hg with rfl | hg
  · exact (h.fsorted f List.mem_cons_self).sublist hs
  · exact h.tail g' hg

theorem SI.enqueue {asc} {v : View} (hv : VInv v) (h : SI asc v.queue v.frames) {sl : Slot} {key arg : Nat}
    (hsl : sl.ev = some ⟨v.nextSeq, key, arg⟩) : SI asc (settle (some asc) (v.queue ++ [sl])) v.frames := by
  -- the new event has the largest sequence number so far (`VInv.pend_lt`), so appending it keeps the
  -- ties in enqueue order, and the re-sort does the rest
  refine SI.resort ?_ ?_ h.fsorted
  · exact List.forall_mem_append.2 ⟨hv.qocc, List.forall_mem_singleton.2 (hsl ▸ rfl)⟩
  · rw [← List.append_assoc, List.pairwise_append]
    refine ⟨h.tie, List.pairwise_singleton _ _, ?_⟩
    intro a ha b hb x y hx hy _
    rw [List.mem_singleton.1 hb, hsl] at hy
    cases hy
    exact hv.pend_lt _ (mem_seqsOf.2 ⟨a, ha, x, hx, rfl⟩)

theorem VStep.ordered {v w : View} (hs : VStep v w) : w.ordered = v.ordered := by
  cases hs <;> rfl

theorem SI.vstep {asc : Bool} {v w : View} (hv : VInv v) (h : SI asc v.queue v.frames) (hs : VStep v w)
    (ho : v.ordered = some asc) : SI asc w.queue w.frames := by
  cases hs with
  | enqFree s fr key arg => exact ho ▸ h.enqueue hv rfl
  | enqNew key arg => exact ho ▸ h.enqueue hv rfl
  | take s r e hq =>
    rw [hq] at h
    exact h.of_sublist (by simp) (List.Pairwise.of_cons h.qsorted) h.fsorted
  | clear => exact h.of_sublist (by simp) List.Pairwise.nil h.fsorted
  | start todo q hq =>
    rw [hq] at h
    have hp := List.pairwise_append.1 h.qsorted
    refine h.of_sublist (by simp) hp.2.1 ?_
    intro f hf
    rcases List.mem_cons.1 hf with rfl | hf
    · exact hp.1
    · exact h.fsorted f hf
  | finish todo kept idle fs hfr =>
    have ⟨ht, hk, _⟩ := hv.focc ⟨todo, kept, idle⟩ (hfr ▸ List.mem_cons_self)
    rw [hfr] at h
    show SI asc (putBack v.ordered (kept ++ todo) v.queue) fs
    unfold putBack
    split
    · exact h.of_sublist (by simp) h.qsorted h.tail
    · rw [ho]
      refine SI.resort ?_ ?_ h.tail
      · exact List.forall_mem_append.2 ⟨List.forall_mem_append.2 ⟨hk, ht⟩, hv.qocc⟩
      · rw [← List.append_assoc]; exact h.tie
  | clearHead s rest kept idle fs hfr => rw [hfr] at h; exact h.reframe (by simp)
  | decline s rest kept idle fs hfr => rw [hfr] at h; exact h.reframe (by simp)

theorem reachE_SI {asc : Bool} {b : QBeh} {c : QCfg} (hr : ReachE b c)
    (ho : c.ordered = some asc) : SI asc c.queue (procFrames c.stack) := by
  refine ((reachE_iff_reachable.1 hr).view_induction
    (P := fun v => VInv v ∧ (v.ordered = some asc → SI asc v.queue v.frames)) ?_ ?_).2 ho
  · intro c0 h0
    refine ⟨(init_inv h0).vinv, fun _ => ?_⟩
    obtain ⟨hq, _, _, _, _, _, p, hst⟩ := h0
    show SI asc c0.queue (procFrames c0.stack)
    rw [hq, hst]
    exact ⟨.nil, .nil, nofun⟩
  · intro v w h s
    refine ⟨h.1.step s, fun ho => ?_⟩
    have ho' := s.ordered ▸ ho
    exact (h.2 ho').vstep h.1 s ho'

/- The same lists read off a stack: `frameSlotsE` is `framePend`, `heldE` is `pendS` of Q/Inv.lean. -/

/-- the slots a frame holds that will still be dispatched or put back -/
def frameSlotsE : QFrame → List Slot
  | .proc _ todo kept _ _ => kept ++ todo
  | _ => []

/-- all slots held by processing calls, oldest call first -/
def heldE : List QFrame → List Slot
  | [] => []
  | f :: fs => heldE fs ++ frameSlotsE f

@[simp] theorem held_nil : heldE [] = [] := rfl
@[simp] theorem held_cons (f : QFrame) (fs : List QFrame) : heldE (f :: fs) = heldE fs ++ frameSlotsE f := rfl
@[simp] theorem frameSlots_prog (p) : frameSlotsE (.prog p) = [] := rfl
@[simp] theorem frameSlots_wait (k) : frameSlotsE (.wait k) = [] := rfl
@[simp] theorem frameSlots_filt (a b c d) : frameSlotsE (.filt a b c d) = [] := rfl
@[simp] theorem frameSlots_iter (a b c) : frameSlotsE (.iter a b c) = [] := rfl
@[simp] theorem frameSlots_done : frameSlotsE .done = [] := rfl
@[simp] theorem frameSlots_proc (m t k i p) : frameSlotsE (.proc m t k i p) = k ++ t := rfl

@[simp] theorem push_ordered (c : QCfg) (e) : (c.push e).ordered = c.ordered := rfl

end Evp.Q
