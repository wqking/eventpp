import EventppVerif.Q.Inv
/-
  Reachability for the queue machine and the `runN` calculus.

  `InitE` is `Init` of Q/Inv.lean word for word and `ReachE` is `Reachable` in run form
  (`reachE_iff_reachable`); they stay because C13 is stated with them; new theorems are stated over
  `Reachable`.  `StackOk` / `COk` (Q/Inv.lean) say what may lie below a frame, `Shape` (Q/Shape.lean) what
  lies directly above a `.proc` frame; neither implies the other.
-/
namespace Evp.Q
open QCfg

/-- Initial configurations: nothing queued, no slot ever made, no guard held, empty trace, one
    top-level program.  Listener lists, filters, the policy (`ordered`) and `nkeys` are arbitrary. -/
def InitE (c0 : QCfg) : Prop :=
  c0.queue = [] ∧ c0.free = [] ∧ c0.ec = 0 ∧ c0.nextSeq = 0 ∧ c0.nextSlot = 0 ∧ c0.trace = [] ∧
  ∃ p, c0.stack = [.prog p]

def ReachE (b : QBeh) (c : QCfg) : Prop :=
  ∃ c0 n, InitE c0 ∧ (QCfg.runN b n c0).1 = c

theorem runN_zero (b : QBeh) (c : QCfg) : (runN b 0 c).1 = c := rfl

theorem runN_succ_some {b : QBeh} {c c' : QCfg} (h : step b c = some c') (n : Nat) :
    runN b (n + 1) c = runN b n c' := by
  simp [runN, h]

theorem runN_none {b : QBeh} {c : QCfg} (h : step b c = none) (n : Nat) :
    (runN b n c).1 = c := by
  cases n with
  | zero => rfl
  | succ n => simp [runN, h]

theorem runN_add (b : QBeh) (m n : Nat) (c : QCfg) :
    (runN b (m + n) c).1 = (runN b n (runN b m c).1).1 := by
  induction m generalizing c with
  | zero => simp [runN]
  | succ m ih =>
    rw [Nat.add_right_comm]
    cases h : step b c with
    | none =>
      simp only [runN, h]
      exact (runN_none h n).symm
    | some c' =>
      rw [runN_succ_some h, runN_succ_some h]
      exact ih c'

def Steps (b : QBeh) (c c' : QCfg) : Prop := ∃ n, (runN b n c).1 = c'

theorem Steps.refl (b : QBeh) (c : QCfg) : Steps b c c := ⟨0, rfl⟩

theorem Steps.of_eq {b : QBeh} {c c' : QCfg} (h : c = c') : Steps b c c' := h ▸ Steps.refl b c

theorem Steps.trans {b : QBeh} {c₁ c₂ c₃ : QCfg} (h₁ : Steps b c₁ c₂) (h₂ : Steps b c₂ c₃) :
    Steps b c₁ c₃ := by
  obtain ⟨m, hm⟩ := h₁
  obtain ⟨n, hn⟩ := h₂
  exact ⟨m + n, by rw [runN_add, hm, hn]⟩

theorem Steps.single {b : QBeh} {c c' : QCfg} (h : step b c = some c') : Steps b c c' :=
  ⟨1, by rw [runN_succ_some h]; rfl⟩

theorem Steps.head {b : QBeh} {c c' c'' : QCfg} (h : step b c = some c') (h₂ : Steps b c' c'') :
    Steps b c c'' := (Steps.single h).trans h₂

theorem runN_induction {b : QBeh} {P : QCfg → Prop} (hstep : ∀ c c', P c → step b c = some c' → P c') :
    ∀ (n : Nat) (c : QCfg), P c → P (runN b n c).1
  | 0, _, h => h
  | n + 1, c, h => by
    cases hs : step b c with
    | none => rw [runN_none hs]; exact h
    | some c' => rw [runN_succ_some hs]; exact runN_induction hstep n c' (hstep c c' h hs)

theorem ReachE.induction {b : QBeh} {P : QCfg → Prop}
    (h0 : ∀ c0, InitE c0 → P c0)
    (hstep : ∀ c c', P c → step b c = some c' → P c')
    {c : QCfg} (hr : ReachE b c) : P c := by
  obtain ⟨c0, n, hi, rfl⟩ := hr
  exact runN_induction hstep n c0 (h0 c0 hi)

theorem ReachE.step {b : QBeh} {c c' : QCfg} (hr : ReachE b c) (h : step b c = some c') :
    ReachE b c' := by
  obtain ⟨c0, n, hi, rfl⟩ := hr
  refine ⟨c0, n + 1, hi, ?_⟩
  rw [runN_add, runN_succ_some h 0]
  rfl

theorem Reachable.runN {b : QBeh} (n : Nat) {c : QCfg} (h : Reachable b c) :
    Reachable b (QCfg.runN b n c).1 :=
  runN_induction (fun _ _ h hs => .step h hs) n c h

/-- `InitE` is `Init` and `ReachE` is `Reachable`: the closure under `step` and the runs from an initial
    configuration are the same set -/
theorem reachE_iff_reachable {b : QBeh} {c : QCfg} : ReachE b c ↔ Reachable b c := by
  constructor
  · rintro ⟨c0, n, hi, rfl⟩
    exact (Reachable.init hi).runN n
  · intro h
    induction h with
    | init h => exact ⟨_, 0, h, rfl⟩
    | step _ hs ih => exact ih.step hs

end Evp.Q
