import EventppVerif.Q.Inv
/-
  The abstract transitions of a view (`VStep`) preserve the view invariant (`VInv`).
  Pure list reasoning; nothing about programs, and of stacks only that the lists of a view read off a stack
  (`procFrames`) are the stack-level lists of Q/Inv.lean (`inflightV_procFrames`, `pendV_procFrames`,
  `length_procFrames`).
-/
namespace Evp.Q

theorem settle_perm (o : Option Bool) (l : List Slot) : (QCfg.settle o l).Perm l := by
  cases o with
  | none => exact List.Perm.refl _
  | some asc => exact List.mergeSort_perm _ _

@[simp] theorem settle_none (l : List Slot) : QCfg.settle none l = l := rfl

theorem putBack_perm (o : Option Bool) (K q : List Slot) : (putBack o K q).Perm (K ++ q) := by
  unfold putBack
  split
  · rename_i h
    rw [List.isEmpty_iff.mp h]; exact .refl _
  · exact settle_perm _ _

theorem recycle_perm (o : Option Bool) (f i : List Slot) : (recycle o f i).Perm (f ++ i) := by
  unfold recycle
  split
  · rename_i h
    rw [List.isEmpty_iff.mp h, List.append_nil]
  · exact settle_perm _ _

@[simp] theorem putBack_none (K q : List Slot) : putBack none K q = K ++ q := by
  unfold putBack
  split
  · rename_i h
    rw [List.isEmpty_iff.mp h]; rfl
  · rfl

@[simp] theorem mem_settle {o : Option Bool} {l : List Slot} {s : Slot} :
    s ∈ QCfg.settle o l ↔ s ∈ l := (settle_perm o l).mem_iff

@[simp] theorem mem_putBack {o : Option Bool} {K q : List Slot} {s : Slot} :
    s ∈ putBack o K q ↔ s ∈ K ∨ s ∈ q := by
  rw [(putBack_perm o K q).mem_iff, List.mem_append]

@[simp] theorem mem_recycle {o : Option Bool} {f i : List Slot} {s : Slot} :
    s ∈ recycle o f i ↔ s ∈ f ∨ s ∈ i := by
  rw [(recycle_perm o f i).mem_iff, List.mem_append]

@[simp] theorem sidsOf_nil : sidsOf [] = [] := rfl
@[simp] theorem sidsOf_cons (s : Slot) (l : List Slot) : sidsOf (s :: l) = s.sid :: sidsOf l := rfl
@[simp] theorem sidsOf_append (l m : List Slot) : sidsOf (l ++ m) = sidsOf l ++ sidsOf m := by
  simp [sidsOf]
@[simp] theorem seqsOf_nil : seqsOf [] = [] := rfl
@[simp] theorem seqsOf_append (l m : List Slot) : seqsOf (l ++ m) = seqsOf l ++ seqsOf m := by
  simp [seqsOf]
theorem seqsOf_cons_some {s : Slot} {e : QEvent} (h : s.ev = some e) (l : List Slot) :
    seqsOf (s :: l) = e.seq :: seqsOf l := by
  simp [seqsOf, h]
theorem seqsOf_cons_none {s : Slot} (h : s.ev = none) (l : List Slot) :
    seqsOf (s :: l) = seqsOf l := by
  simp [seqsOf, h]
@[simp] theorem seqsOf_cons_mk_some (i : Nat) (e : QEvent) (l : List Slot) :
    seqsOf (⟨i, some e⟩ :: l) = e.seq :: seqsOf l := seqsOf_cons_some rfl l
@[simp] theorem seqsOf_cons_clr (s : Slot) (l : List Slot) : seqsOf (clr s :: l) = seqsOf l :=
  seqsOf_cons_none rfl l
theorem seqsOf_of_empty {l : List Slot} (h : ∀ s ∈ l, s.ev = none) : seqsOf l = [] :=
  List.filterMap_eq_nil_iff.2 fun s hs => h s hs ▸ rfl
@[simp] theorem seqsOf_map_clr (l : List Slot) : seqsOf (l.map clr) = [] :=
  seqsOf_of_empty (List.forall_mem_map.2 fun _ _ => rfl)
@[simp] theorem sidsOf_map_clr (l : List Slot) : sidsOf (l.map clr) = sidsOf l := by
  simp [sidsOf, clr]
@[simp] theorem clr_sid (s : Slot) : (clr s).sid = s.sid := rfl
@[simp] theorem clr_ev (s : Slot) : (clr s).ev = none := rfl

@[simp] theorem count_seqsOf_recycle (o : Option Bool) (f i : List Slot) (a : Nat) :
    (seqsOf (recycle o f i)).count a = (seqsOf f).count a + (seqsOf i).count a := by
  rw [← List.count_append, ← seqsOf_append]
  exact ((recycle_perm o f i).filterMap _).count_eq a

@[simp] theorem inflightV_nil : inflightV [] = [] := rfl
@[simp] theorem inflightV_cons (f : PFrame) (fs : List PFrame) :
    inflightV (f :: fs) = f.todo ++ f.kept ++ f.idle ++ inflightV fs := by
  simp [inflightV]
@[simp] theorem pendV_nil : pendV [] = [] := rfl
@[simp] theorem pendV_cons (f : PFrame) (fs : List PFrame) :
    pendV (f :: fs) = pendV fs ++ (f.kept ++ f.todo) := rfl

theorem inflightV_procFrames (st : List QFrame) : inflightV (procFrames st) = inflightS st := by
  induction st with
  | nil => rfl
  | cons f st ih => cases f <;> first | exact ih | exact congrArg (_ ++ ·) ih

theorem pendV_procFrames (st : List QFrame) : pendV (procFrames st) = pendS st := by
  induction st with
  | nil => rfl
  | cons f st ih =>
    cases f <;> first | exact ih.trans (List.append_nil _).symm | exact congrArg (· ++ _) ih

theorem length_procFrames (st : List QFrame) : (procFrames st).length = procCount st := by
  induction st with
  | nil => rfl
  | cons f st ih => cases f <;> first | exact ih | exact congrArg (· + 1) ih

theorem mem_procFrames {st : List QFrame} {mode : PMode} {todo kept idle : List Slot} {ph : Phase}
    (h : QFrame.proc mode todo kept idle ph ∈ st) : (⟨todo, kept, idle⟩ : PFrame) ∈ procFrames st :=
  List.mem_filterMap.mpr ⟨_, h, rfl⟩

theorem sublist_pendV {f : PFrame} : ∀ {fs : List PFrame}, f ∈ fs → (f.kept ++ f.todo).Sublist (pendV fs)
  | g :: fs, h => by
    rcases List.mem_cons.1 h with rfl | h
    · exact List.sublist_append_right _ _
    · exact (sublist_pendV h).trans (List.sublist_append_left _ _)

theorem pendV_sub_inflightV (fs : List PFrame) : ∀ s ∈ pendV fs, s ∈ inflightV fs := by
  induction fs with
  | nil => simp
  | cons f fs ih =>
    intro s hs
    simp only [pendV_cons, List.mem_append] at hs
    simp only [inflightV_cons, List.mem_append]
    rcases hs with h | h | h
    · exact Or.inr (ih s h)
    · exact Or.inl (Or.inl (Or.inr h))
    · exact Or.inl (Or.inl (Or.inl h))

theorem mem_seqsOf {l : List Slot} {n : Nat} :
    n ∈ seqsOf l ↔ ∃ s ∈ l, ∃ e, s.ev = some e ∧ e.seq = n := by
  simp [seqsOf, List.mem_filterMap]

/-- the slots that may hold an event -/
def liveV (v : View) : List Slot := v.queue ++ inflightV v.frames

theorem VInv.seq_lt {v : View} (h : VInv v) {s : Slot} {e : QEvent}
    (hs : s ∈ liveV v) (he : s.ev = some e) : e.seq < v.nextSeq :=
  List.mem_range.mp (h.once.mem_iff.mp (List.mem_append_left _
    (seqsOf_append .. ▸ mem_seqsOf.mpr ⟨s, hs, e, he, rfl⟩)))

theorem VInv.pend_lt {v : View} (h : VInv v) :
    ∀ n ∈ seqsOf (pendV v.frames ++ v.queue), n < v.nextSeq := by
  intro n hn
  obtain ⟨s, hs, e, he, rfl⟩ := mem_seqsOf.mp hn
  refine h.seq_lt ?_ he
  rcases List.mem_append.mp hs with hs | hs
  · exact List.mem_append_right _ (pendV_sub_inflightV _ s hs)
  · exact List.mem_append_left _ hs

theorem perm_of_count {l l' m : List Nat} (h : l.Perm m) (hc : ∀ a, l'.count a = l.count a) :
    l'.Perm m := (List.perm_iff_count.2 hc).trans h

theorem pairwise_seqsOf_sublist {l m : List Slot} (hs : l.Sublist m)
    (h : (seqsOf m).Pairwise (· < ·)) : (seqsOf l).Pairwise (· < ·) :=
  h.sublist (hs.filterMap _)

/-- `VInv` does not see `settle`: the queue and the free list may be permuted, as long as the queue stays as
    it is under the `std::list` policy (only `fifo` reads an order, and only then).  So the steps that end in
    `settle` / `putBack` / `recycle` are proved for the lists before it. -/
theorem VInv.perm {q q' f f' : List Slot} {ec : Nat} {o : Option Bool} {ns nsl : Nat} {cons : List Nat}
    {fs : List PFrame} (h : VInv ⟨q', f', ec, o, ns, nsl, cons, fs⟩) (hq : q.Perm q') (hf : f.Perm f')
    (ho : o = none → q = q') : VInv ⟨q, f, ec, o, ns, nsl, cons, fs⟩ :=
  ⟨fun s hs => h.qocc s (hq.mem_iff.1 hs), fun s hs => h.fempty s (hf.mem_iff.1 hs), h.focc,
    (((hq.append hf).append_right _).map _).trans h.sids,
    (((hq.filterMap _).append_right _).append_right _).trans h.once,
    fun hn => ho hn ▸ h.fifo hn, h.guard⟩

theorem VInv.enqFree {v : View} (h : VInv v) (s : Slot) (fr : List Slot) (key arg : Nat)
    (hf : v.free = s :: fr) :
    VInv { v with
        free := fr
        queue := QCfg.settle v.ordered (v.queue ++ [{ s with ev := some ⟨v.nextSeq, key, arg⟩ }])
        nextSeq := v.nextSeq + 1 } := by
  refine .perm ?_ (settle_perm ..) (.refl _) fun ho => by simp [ho]
  have hlt := h.pend_lt
  obtain ⟨qocc, fempty, focc, sids, once, fifo, guard⟩ := h
  rw [hf] at fempty sids
  refine ⟨List.forall_mem_append.2 ⟨qocc, List.forall_mem_singleton.2 rfl⟩,
    (List.forall_mem_cons.1 fempty).2, focc, ?_, ?_, ?_, guard⟩
  · exact perm_of_count sids fun a => by simp [List.count_cons]
  · exact perm_of_count (List.range_succ ▸ once.append_right [_]) fun a => by
      simp [List.count_cons]; omega
  · intro ho
    rw [← List.append_assoc, seqsOf_append, List.pairwise_append]
    exact ⟨fifo ho, by simp, fun a ha b hb => by simp at hb; exact hb ▸ hlt a ha⟩

/-- `enqNew` is this step followed by `enqFree` -/
theorem VInv.alloc {v : View} (h : VInv v) :
    VInv { v with free := ⟨v.nextSlot, none⟩ :: v.free, nextSlot := v.nextSlot + 1 } := by
  obtain ⟨qocc, fempty, focc, sids, once, fifo, guard⟩ := h
  refine ⟨qocc, List.forall_mem_cons.2 ⟨rfl, fempty⟩, focc, ?_, once, fifo, guard⟩
  exact perm_of_count (List.range_succ ▸ sids.append_right [_]) fun a => by
    simp [List.count_cons]; omega

/-- a prefix of the queue is cleared and recycled: `take` (one slot) and `clear` (all) -/
theorem VInv.clearPrefix {v : View} (h : VInv v) (p r : List Slot) (hq : v.queue = p ++ r) :
    VInv { v with
        queue := r
        free := QCfg.settle v.ordered (v.free ++ p.map clr)
        cons := (seqsOf p).reverse ++ v.cons } := by
  refine .perm ?_ (.refl _) (settle_perm ..) fun _ => rfl
  obtain ⟨qocc, fempty, focc, sids, once, fifo, guard⟩ := h
  rw [hq] at qocc sids once fifo
  refine ⟨(List.forall_mem_append.1 qocc).2,
    List.forall_mem_append.2 ⟨fempty, List.forall_mem_map.2 fun _ _ => rfl⟩, focc, ?_, ?_, ?_, guard⟩
  · exact perm_of_count sids fun a => by simp; omega
  · exact perm_of_count once fun a => by simp; omega
  · exact fun ho => pairwise_seqsOf_sublist ((List.sublist_append_right p r).append_left _) (fifo ho)

theorem seqsOf_cons (s : Slot) (l : List Slot) :
    seqsOf (s :: l) = (s.ev.map (·.seq)).toList ++ seqsOf l := by
  cases h : s.ev <;> simp [seqsOf, h]

theorem VInv.clearHead {v : View} (h : VInv v) (s : Slot) (rest kept idle : List Slot)
    (fs : List PFrame) (hf : v.frames = ⟨s :: rest, kept, idle⟩ :: fs) :
    VInv { v with
        cons := (match s.ev with | some e => e.seq :: v.cons | none => v.cons)
        frames := ⟨rest, kept, idle ++ [clr s]⟩ :: fs } := by
  obtain ⟨qocc, fempty, focc, sids, once, fifo, guard⟩ := h
  rw [hf] at focc sids once fifo guard
  obtain ⟨⟨ht, hk, hi⟩, focc⟩ := List.forall_mem_cons.1 focc
  have hc : (match s.ev with | some e => e.seq :: v.cons | none => v.cons)
      = (s.ev.map (·.seq)).toList ++ v.cons := by cases s.ev <;> rfl
  refine ⟨qocc, fempty, List.forall_mem_cons.2 ⟨⟨(List.forall_mem_cons.1 ht).2, hk,
    List.forall_mem_append.2 ⟨hi, List.forall_mem_singleton.2 rfl⟩⟩, focc⟩, ?_, ?_, ?_, guard⟩
  · exact perm_of_count sids fun a => by simp [List.count_cons]; omega
  · exact perm_of_count once fun a => by simp [seqsOf_cons, hc]; omega
  · refine fun ho => pairwise_seqsOf_sublist ?_ (fifo ho)
    exact (((List.sublist_cons_self s rest).append_left kept).append_left _).append_right _

theorem VInv.step {v w : View} (h : VInv v) (hs : VStep v w) : VInv w := by
  cases hs with
  | enqFree s fr key arg hf => exact h.enqFree s fr key arg hf
  | enqNew key arg => exact h.alloc.enqFree ⟨v.nextSlot, none⟩ v.free key arg rfl
  | take s r e hq he =>
    have := h.clearPrefix [s] r hq
    rwa [seqsOf_cons_some he] at this
  | clear => exact h.clearPrefix v.queue [] (List.append_nil _).symm
  | start todo q hq =>
    obtain ⟨qocc, fempty, focc, sids, once, fifo, guard⟩ := h
    rw [hq] at qocc sids once fifo
    obtain ⟨ht, qocc⟩ := List.forall_mem_append.1 qocc
    refine ⟨qocc, fempty, List.forall_mem_cons.2 ⟨⟨ht, List.forall_mem_nil _, List.forall_mem_nil _⟩, focc⟩,
      ?_, ?_, ?_, congrArg (· + 1) guard⟩
    · exact perm_of_count sids fun a => by simp; omega
    · exact perm_of_count once fun a => by simp; omega
    · simpa using fifo
  | finish todo kept idle fs hf =>
    refine .perm ?_ (putBack_perm ..) (recycle_perm ..) fun ho => by simp [ho]
    obtain ⟨qocc, fempty, focc, sids, once, fifo, guard⟩ := h
    rw [hf] at focc sids once fifo guard
    obtain ⟨⟨ht, hk, hi⟩, focc⟩ := List.forall_mem_cons.1 focc
    refine ⟨List.forall_mem_append.2 ⟨List.forall_mem_append.2 ⟨hk, ht⟩, qocc⟩,
      List.forall_mem_append.2 ⟨fempty, hi⟩, focc, ?_, ?_, ?_, by simp [guard]⟩
    · exact perm_of_count sids fun a => by simp; omega
    · exact perm_of_count once fun a => by simp [seqsOf_of_empty hi]; omega
    · simpa using fifo
  | clearHead s rest kept idle fs hf => exact h.clearHead s rest kept idle fs hf
  | decline s rest kept idle fs hf hs =>
    obtain ⟨qocc, fempty, focc, sids, once, fifo, guard⟩ := h
    rw [hf] at focc sids once fifo guard
    obtain ⟨⟨ht, hk, hi⟩, focc⟩ := List.forall_mem_cons.1 focc
    -- the same slots in the same lists, but for `s`
    have hp : (rest ++ (kept ++ [s])).Perm (s :: rest ++ kept) := by
      rw [← List.append_assoc]; exact List.perm_append_singleton ..
    have hp := (hp.append_right idle).append_right (inflightV fs)
    exact ⟨qocc, fempty, List.forall_mem_cons.2 ⟨⟨(List.forall_mem_cons.1 ht).2,
      List.forall_mem_append.2 ⟨hk, List.forall_mem_singleton.2 hs⟩, hi⟩, focc⟩,
      ((hp.append_left _).map _).trans sids,
      (((hp.filterMap _).append_left _).append_right _).trans once, by simpa using fifo, guard⟩

end Evp.Q
