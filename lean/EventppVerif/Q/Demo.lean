import EventppVerif.Q.InvCor
/-
  A small concrete run used by the non-vacuity examples of the property files.
-/
namespace Evp.Q.Demo

def seqProg : List QCmd → QProg
  | [] => .ret true
  | c :: r => .op c (fun _ => seqProg r)

/-- listener 1 enqueues event (0, 99) the first time it is called; predicate 7 declines the
    event with argument 11 -/
def beh : QBeh where
  run call nth :=
    match call.kind with
    | .listener => if call.cb = 1 ∧ nth = 0 then seqProg [.enqueue 0 99] else .ret true
    | .filter => .ret true
    | .pred => .ret (call.arg != 11)
  rewrite _ a := a

def main : QProg :=
  seqProg [.listen 0 1, .enqueue 0 10, .enqueue 0 11, .enqueue 0 12, .processIf 7, .process, .emptyq]

def c0 : QCfg := { stack := [.prog main] }

theorem c0_init : Init c0 := ⟨rfl, rfl, rfl, rfl, rfl, rfl, main, rfl⟩

def at_ (n : Nat) : QCfg := (QCfg.runN beh n c0).1

theorem at_reachable (n : Nat) : Reachable beh (at_ n) := (Reachable.init c0_init).runN n

end Evp.Q.Demo
