import EventppVerif.Q.Reach
import EventppVerif.CL.SpecLaws
/-
  Dispatch (C04 / C12): the functional specification `dispatchCalls` of one dispatch, the run of the
  machine through the filter and listener phases for behaviours whose filters and listeners return
  immediately, and one-step facts about `nextFilter` / `nextListener` / `apply` for arbitrary
  behaviours.
-/
namespace Evp.Q
open QCfg

/-- the listeners that get to run under the `CanContinueInvoking` policy `cont` when the argument is
    `arg`: the policy is asked after each listener has returned, and its verdict depends on the
    argument only, which is the same for every listener of one dispatch — so either all of them run
    (`cont arg = true`) or only the first one does (`cont arg = false`; the first always runs). -/
def policyCut (cont : Nat → Bool) (arg : Nat) (L : SList) : SList :=
  if cont arg then L else L.take 1

def listenerCalls (cont : Nat → Bool) (key arg : Nat) (L : SList) : List QCall :=
  (policyCut cont arg L).map fun e => ⟨.listener, key, e.id, e.cb, arg⟩

def callsFrom (verdict : Cb → Nat → Bool) (rw : Cb → Nat → Nat) (cont : Nat → Bool) (key : Nat)
    (listeners : SList) : List Entry → Nat → List QCall
  | [], a => listenerCalls cont key a listeners
  | f :: fs, a =>
    ⟨.filter, key, f.id, f.cb, a⟩ ::
      (if verdict f.cb a then callsFrom verdict rw cont key listeners fs (rw f.cb a) else [])

/-- **Specification of a dispatch with MixinFilter and a `CanContinueInvoking` policy.**  The filters
    are called in list order with the running argument (`a₀ = arg`, `aᵢ₊₁ = rw fᵢ aᵢ`); the first
    filter whose verdict is `false` ends the dispatch; if none does, the listeners are called in list
    order, each with the final argument `a` — all of them if `cont a`, only the first one if not
    (`policyCut`). -/
def dispatchCalls (filters listeners : SList) (verdict : Cb → Nat → Bool) (rw : Cb → Nat → Nat)
    (cont : Nat → Bool) (key arg : Nat) : List QCall :=
  callsFrom verdict rw cont key listeners filters arg

@[simp] theorem policyCut_true {cont : Nat → Bool} {arg : Nat} (h : cont arg = true) (L : SList) :
    policyCut cont arg L = L := by simp [policyCut, h]

@[simp] theorem policyCut_false {cont : Nat → Bool} {arg : Nat} (h : cont arg = false) (L : SList) :
    policyCut cont arg L = L.take 1 := by simp [policyCut, h]

@[simp] theorem policyCut_default (arg : Nat) (L : SList) : policyCut (fun _ => true) arg L = L := rfl

/-- filters and listeners return immediately: a filter's verdict is a function of callback and
    argument, a listener's return value is arbitrary (it is ignored) -/
structure Flat (b : QBeh) (verdict : Cb → Nat → Bool) : Prop where
  filt : ∀ call nth, call.kind = .filter → b.run call nth = .ret (verdict call.cb call.arg)
  lis : ∀ call nth, call.kind = .listener → ∃ v, b.run call nth = .ret v

theorem mem_of_present {L : SList} {h : Hd} (hp : L.present h = true) : ∃ e ∈ L, e.id = h :=
  SList.exists_of_present hp

theorem step_iter_ret {b : QBeh} {c : QCfg} {v key arg rest below}
    (h : c.stack = .prog (.ret v) :: .iter key arg rest :: below) (hc : b.cont arg = true) :
    step b c = some (nextListener b c key arg rest below) := by
  unfold step; rw [h]; simp [hc]

theorem step_iter_stop {b : QBeh} {c : QCfg} {v key arg rest below}
    (h : c.stack = .prog (.ret v) :: .iter key arg rest :: below) (hc : b.cont arg = false) :
    step b c = some { c with stack := .done :: below } := by
  unfold step; rw [h]; simp [hc]

theorem step_filt_true {b : QBeh} {c : QCfg} {key arg rest cur below}
    (h : c.stack = .prog (.ret true) :: .filt key arg rest cur :: below) :
    step b c = some (nextFilter b c key (b.rewrite cur arg) rest below) := by
  unfold step; rw [h]; rfl

theorem step_filt_false {b : QBeh} {c : QCfg} {key arg rest cur below}
    (h : c.stack = .prog (.ret false) :: .filt key arg rest cur :: below) :
    step b c = some { c with stack := .done :: below } := by
  unfold step; rw [h]; rfl

theorem step_dispatch {b : QBeh} {c : QCfg} {key arg k rest}
    (h : c.stack = .prog (.op (.dispatch key arg) k) :: rest) :
    step b c = some (nextFilter b c key arg c.filters (.wait k :: rest)) := by
  unfold step; rw [h]

theorem step_done {b : QBeh} {c : QCfg} {below} (h : c.stack = .done :: below) :
    step b c = some (endDispatch b c below) := by
  unfold step; rw [h]

theorem nextListener_nil (b : QBeh) (c : QCfg) (key arg : Nat) (below : List QFrame) :
    nextListener b c key arg [] below = { c with stack := .done :: below } := by
  simp [nextListener]

theorem nextListener_cons_present (b : QBeh) (c : QCfg) (key arg : Nat) (e : Entry) (es : List Entry)
    (below : List QFrame) (hp : (c.lists key).present e.id = true) :
    nextListener b c key arg (e :: es) below =
      { c with trace := .call ⟨.listener, key, e.id, e.cb, arg⟩ :: c.trace
               stack := .prog (callProg b c ⟨.listener, key, e.id, e.cb, arg⟩) :: .iter key arg es :: below } := by
  simp [nextListener, List.dropWhile, hp]

theorem nextListener_cons_absent (b : QBeh) (c : QCfg) (key arg : Nat) (e : Entry) (es : List Entry)
    (below : List QFrame) (hp : (c.lists key).present e.id = false) :
    nextListener b c key arg (e :: es) below = nextListener b c key arg es below := by
  simp [nextListener, List.dropWhile, hp]

theorem nextFilter_nil (b : QBeh) (c : QCfg) (key arg : Nat) (below : List QFrame) :
    nextFilter b c key arg [] below = nextListener b c key arg (c.lists key) below := by
  simp [nextFilter]

theorem nextFilter_cons_present (b : QBeh) (c : QCfg) (key arg : Nat) (e : Entry) (es : List Entry)
    (below : List QFrame) (hp : c.filters.present e.id = true) :
    nextFilter b c key arg (e :: es) below =
      { c with trace := .call ⟨.filter, key, e.id, e.cb, arg⟩ :: c.trace
               stack := .prog (callProg b c ⟨.filter, key, e.id, e.cb, arg⟩) :: .filt key arg es e.cb :: below } := by
  simp [nextFilter, List.dropWhile, hp]

theorem nextFilter_cons_absent (b : QBeh) (c : QCfg) (key arg : Nat) (e : Entry) (es : List Entry)
    (below : List QFrame) (hp : c.filters.present e.id = false) :
    nextFilter b c key arg (e :: es) below = nextFilter b c key arg es below := by
  simp [nextFilter, List.dropWhile, hp]

theorem endDispatch_wait (b : QBeh) (c : QCfg) (k : QRes → QProg) (below : List QFrame) :
    endDispatch b c (.wait k :: below) =
      { c with stack := .prog (k .unit) :: below, trace := .res .unit :: c.trace } := rfl

theorem endDispatch_proc (b : QBeh) (c : QCfg) (mode : PMode) (s : Slot) (e : QEvent)
    (rest kept idle : List Slot) (below : List QFrame) (hev : s.ev = some e) :
    endDispatch b c (.proc mode (s :: rest) kept idle .disp :: below) =
      procNext b (c.push (.consumed e.seq 0)) mode rest kept (idle ++ [{ s with ev := none }]) below := by
  simp only [endDispatch, hev]

theorem runN_two_done {b : QBeh} {c : QCfg} {below : List QFrame}
    (h : step b c = some { c with stack := .done :: below }) :
    (runN b 2 c).1 = endDispatch b { c with stack := .done :: below } below := by
  rw [runN_succ_some h, runN_succ_some (step_done rfl)]
  rfl

theorem run_listeners {b : QBeh} {verdict} (hb : Flat b verdict) (key arg : Nat)
    (below : List QFrame) :
    ∀ (snap : List Entry) (c : QCfg), (∀ e ∈ snap, (c.lists key).present e.id = true) →
      Steps b (nextListener b c key arg snap below)
        { c with stack := .done :: below
                 trace := ((listenerCalls b.cont key arg snap).map QEv.call).reverse ++ c.trace }
  | [], c, _ => by
    rw [nextListener_nil]
    exact .of_eq (by simp [listenerCalls, policyCut])
  | e :: es, c, hp => by
    rw [nextListener_cons_present b c key arg e es below (hp e List.mem_cons_self)]
    obtain ⟨v, hv⟩ := hb.lis ⟨.listener, key, e.id, e.cb, arg⟩ (countCalls c.trace e.cb) rfl
    rw [show callProg b c ⟨.listener, key, e.id, e.cb, arg⟩ = .ret v from hv]
    cases hc : b.cont arg with
    | true =>
      refine Steps.head (step_iter_ret rfl hc)
        ((run_listeners hb key arg below es _ ?_).trans (.of_eq ?_))
      · exact fun e' he' => hp e' (List.mem_cons_of_mem _ he')
      · simp [listenerCalls, hc]
    | false =>
      refine Steps.head (step_iter_stop rfl hc) (.of_eq ?_)
      simp [listenerCalls, hc]

theorem run_filters {b : QBeh} {verdict} (hb : Flat b verdict) (key : Nat) (below : List QFrame) :
    ∀ (snap : List Entry) (arg : Nat) (c : QCfg), (∀ e ∈ snap, c.filters.present e.id = true) →
      Steps b (nextFilter b c key arg snap below)
        { c with stack := .done :: below
                 trace := ((callsFrom verdict b.rewrite b.cont key (c.lists key) snap arg).map QEv.call).reverse
                            ++ c.trace }
  | [], arg, c, _ => by
    rw [nextFilter_nil]
    exact run_listeners hb key arg below (c.lists key) c (fun e he => SList.present_of_mem he)
  | e :: es, arg, c, hp => by
    rw [nextFilter_cons_present b c key arg e es below (hp e List.mem_cons_self)]
    rw [show callProg b c ⟨.filter, key, e.id, e.cb, arg⟩ = .ret (verdict e.cb arg) from
      hb.filt ⟨.filter, key, e.id, e.cb, arg⟩ _ rfl]
    cases hv : verdict e.cb arg with
    | false =>
      refine Steps.head (step_filt_false rfl) (.of_eq ?_)
      simp [callsFrom, hv]
    | true =>
      refine Steps.head (step_filt_true rfl)
        ((run_filters hb key below es _ _ ?_).trans (.of_eq ?_))
      · exact fun e' he' => hp e' (List.mem_cons_of_mem _ he')
      · simp [callsFrom, hv]

theorem run_dispatch {b : QBeh} {verdict} (hb : Flat b verdict) (c : QCfg) (key arg : Nat)
    (below : List QFrame) :
    Steps b (nextFilter b c key arg c.filters below)
      (endDispatch b
        { c with stack := .done :: below
                 trace := ((dispatchCalls c.filters (c.lists key) verdict b.rewrite b.cont key arg).map
                            QEv.call).reverse ++ c.trace } below) :=
  (run_filters hb key below c.filters arg c (fun _ he => SList.present_of_mem he)).trans
    (Steps.single (step_done rfl))

theorem dispatch_flat {b : QBeh} {verdict} (hb : Flat b verdict) (c : QCfg) (key arg : Nat)
    (k : QRes → QProg) (rest : List QFrame)
    (hst : c.stack = .prog (.op (.dispatch key arg) k) :: rest) :
    Steps b c
      { c with stack := .prog (k .unit) :: rest
               trace := .res .unit ::
                 ((dispatchCalls c.filters (c.lists key) verdict b.rewrite b.cont key arg).map QEv.call).reverse
                   ++ c.trace } :=
  Steps.head (step_dispatch hst) (run_dispatch hb c key arg (.wait k :: rest))

theorem of_dropWhile_eq_cons {α} {p : α → Bool} {a : α} {r : List α} {l : List α}
    (h : l.dropWhile p = a :: r) : p a = false ∧ a ∈ l :=
  ⟨by simpa [h] using List.head?_dropWhile_not p l,
   (List.dropWhile_sublist p).subset (h ▸ List.mem_cons_self)⟩

theorem nextListener_trace (b : QBeh) (c : QCfg) (key arg : Nat) (below : List QFrame)
    (snap : List Entry) :
    (nextListener b c key arg snap below).trace = c.trace ∨
    ∃ e ∈ snap, (c.lists key).present e.id = true ∧
      (nextListener b c key arg snap below).trace = .call ⟨.listener, key, e.id, e.cb, arg⟩ :: c.trace := by
  unfold nextListener
  split
  · exact .inl rfl
  · next e es h =>
    obtain ⟨hp, he⟩ := of_dropWhile_eq_cons h
    exact .inr ⟨e, he, by simpa using hp, rfl⟩

/-- the callback of `call` is, in world (`L`, `F`), a current listener of the call's event /
    a current filter (nothing is claimed for predicates, which are not stored anywhere) -/
def CallOK (L : Store SList) (F : SList) (call : QCall) : Prop :=
  match call.kind with
  | .filter => F.present call.h = true
  | .listener => (L call.key).present call.h = true
  | .pred => True

theorem CallOK.filter {L F call} (h : CallOK L F call) (hk : call.kind = .filter) :
    F.present call.h = true := by
  unfold CallOK at h; rwa [hk] at h

theorem CallOK.listener {L F call} (h : CallOK L F call) (hk : call.kind = .listener) :
    (L call.key).present call.h = true := by
  unfold CallOK at h; rwa [hk] at h

/-- `c'.trace` extends `tr` by events whose calls are all `CallOK` -/
def NewCallsOK (L : Store SList) (F : SList) (tr : List QEv) (c' : QCfg) : Prop :=
  ∃ new, c'.trace = new ++ tr ∧ ∀ call, QEv.call call ∈ new → CallOK L F call

theorem NewCallsOK.of_eq {L F} {c' : QCfg} {tr} (h : c'.trace = tr) : NewCallsOK L F tr c' :=
  ⟨[], h, nofun⟩

theorem NewCallsOK.cons {L F e tr} {c' : QCfg} (h : NewCallsOK L F (e :: tr) c')
    (he : ∀ call, e = .call call → CallOK L F call) : NewCallsOK L F tr c' := by
  obtain ⟨new, hn, hc⟩ := h
  refine ⟨new ++ [e], by simp [hn], ?_⟩
  intro call hm
  rcases List.mem_append.1 hm with hm | hm
  · exact hc call hm
  · exact he call (List.mem_singleton.1 hm).symm

theorem NewCallsOK.call {L F call tr} {c' : QCfg} (h : c'.trace = .call call :: tr) (hc : CallOK L F call) :
    NewCallsOK L F tr c' :=
  (NewCallsOK.of_eq h).cons fun _ he => by cases he; exact hc

theorem nextListener_newCalls (b : QBeh) (c : QCfg) (key arg : Nat) (snap : List Entry) (below) :
    NewCallsOK c.lists c.filters c.trace (nextListener b c key arg snap below) := by
  rcases nextListener_trace b c key arg below snap with h | ⟨e, -, hp, h⟩
  · exact .of_eq h
  · exact .call h hp

theorem nextFilter_newCalls (b : QBeh) (c : QCfg) (key arg : Nat) (snap : List Entry) (below) :
    NewCallsOK c.lists c.filters c.trace (nextFilter b c key arg snap below) := by
  unfold nextFilter
  split
  · exact nextListener_newCalls b c key arg _ below
  · next e es h =>
    exact .call rfl (show c.filters.present e.id = true by simpa using (of_dropWhile_eq_cons h).1)

theorem deliver_newCalls (c : QCfg) (r : QRes) (below : List QFrame) :
    NewCallsOK c.lists c.filters c.trace (c.deliver r below) := by
  unfold deliver
  split
  · exact (NewCallsOK.of_eq rfl).cons nofun
  · exact .of_eq rfl

theorem finishProc_newCalls (c : QCfg) (mode kept idle below) :
    NewCallsOK c.lists c.filters c.trace (finishProc c mode kept idle below) :=
  deliver_newCalls _ _ _

theorem procNext_newCalls (b : QBeh) (c : QCfg) (mode todo kept idle below) :
    NewCallsOK c.lists c.filters c.trace (procNext b c mode todo kept idle below) := by
  unfold procNext
  split
  · exact finishProc_newCalls c _ _ _ _
  · split
    · exact finishProc_newCalls c _ _ _ _
    · split
      · exact nextFilter_newCalls b c _ _ _ _
      · exact nextFilter_newCalls b c _ _ _ _
      · exact .call rfl trivial
      · exact .call rfl trivial

theorem endDispatch_newCalls (b : QBeh) (c : QCfg) (below) :
    NewCallsOK c.lists c.filters c.trace (endDispatch b c below) := by
  unfold endDispatch
  split
  · split
    · exact (procNext_newCalls b (c.push _) _ _ _ _ _).cons nofun
    · exact procNext_newCalls b c _ _ _ _ _
  · exact deliver_newCalls c _ _

theorem startProc_newCalls (b : QBeh) (c : QCfg) (mode k rest) :
    NewCallsOK c.lists c.filters c.trace (startProc b c mode k rest) := by
  unfold startProc
  split
  · exact (NewCallsOK.of_eq rfl).cons nofun
  · split
    · exact procNext_newCalls b { c with queue := _, ec := c.ec + 1 } _ _ _ _ _

theorem apply_no_call (c : QCfg) (cmd : QCmd) :
    ∃ new, (c.apply cmd).1.trace = new ++ c.trace ∧ ∀ call, QEv.call call ∉ new := by
  have same : ∀ {x : QCfg × QRes}, x.1.trace = c.trace →
      ∃ new, x.1.trace = new ++ c.trace ∧ ∀ call, QEv.call call ∉ new :=
    fun h => ⟨[], h, fun _ => List.not_mem_nil⟩
  unfold apply
  repeat' split
  -- every branch but two leaves the trace as it is
  all_goals try exact same rfl
  -- `take` and `clear` record `consumed` events
  · exact ⟨[_], rfl, by simp⟩
  · exact ⟨_, rfl, by simp⟩

theorem apply_newCalls (c : QCfg) (cmd : QCmd) (k : QRes → QProg) (rest : List QFrame) :
    NewCallsOK c.lists c.filters c.trace
      { (c.apply cmd).1 with stack := .prog (k (c.apply cmd).2) :: rest
                             trace := .res (c.apply cmd).2 :: (c.apply cmd).1.trace } := by
  obtain ⟨new, hn, hc⟩ := apply_no_call c cmd
  exact ⟨.res (c.apply cmd).2 :: new, by simp [hn], fun call hm => (hc call (by simpa using hm)).elim⟩

theorem step_newCalls {b : QBeh} {c c' : QCfg} (hs : step b c = some c') :
    NewCallsOK c.lists c.filters c.trace c' := by
  -- one bullet per arm of the `match` in `step`, in its order
  unfold step at hs
  split at hs
  · cases hs
  · split at hs <;> cases hs
    · exact nextFilter_newCalls b c _ _ _ _
    · exact .of_eq rfl
  · split at hs <;> cases hs
    · exact nextListener_newCalls b c _ _ _ _
    · exact .of_eq rfl
  · split at hs
    · split at hs <;> cases hs
      · exact nextFilter_newCalls b c _ _ _ _
      · exact procNext_newCalls b c _ _ _ _ _
    · split at hs <;> cases hs
      · exact finishProc_newCalls c _ _ _ _
      · exact nextFilter_newCalls b c _ _ _ _
    · cases hs
  · cases hs; exact .of_eq rfl
  · cases hs; exact nextFilter_newCalls b c _ _ _ _
  · cases hs; exact startProc_newCalls b c _ _ _
  · cases hs; exact startProc_newCalls b c _ _ _
  · cases hs; exact startProc_newCalls b c _ _ _
  · cases hs; exact startProc_newCalls b c _ _ _
  · cases hs; exact apply_newCalls c _ _ _
  · cases hs; exact endDispatch_newCalls b c _
  all_goals cases hs

end Evp.Q
