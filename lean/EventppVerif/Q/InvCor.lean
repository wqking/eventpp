import EventppVerif.Q.InvProofs
/-
  Corollaries of `QInv` for reachable configurations, in terms of the configuration itself
  (`queue`, `free`, `stack`, `trace`), ready to be quoted by the property files.
-/
namespace Evp.Q

theorem inflightS_of_procCount_zero {st : List QFrame} (h : procCount st = 0) : inflightS st = [] := by
  rw [← inflightV_procFrames, List.eq_nil_of_length_eq_zero ((length_procFrames st).trans h)]
  rfl

theorem COk.proc_shape {x : Bool} {st : List QFrame} (h : COk x st)
    {st1 st2 : List QFrame} {mode : PMode} {todo kept idle : List Slot} {ph : Phase}
    (hst : st = st1 ++ QFrame.proc mode todo kept idle ph :: st2) :
    todo ≠ [] ∧ ∃ k r, st2 = .wait k :: r := by
  induction h generalizing st1 with
  | nil => cases st1 <;> cases hst
  | filt _ ih | iter _ ih | wait _ ih =>
    cases st1 with
    | nil => cases hst
    | cons f st1 => exact ih (List.cons.inj hst).2
  | pred _ _ ih | disp _ ih =>
    cases st1 with
    | nil => cases hst; exact ⟨List.cons_ne_nil _ _, _, _, rfl⟩
    | cons f st1 =>
      cases st1 with
      | nil => cases (List.cons.inj (List.cons.inj hst).2).1
      | cons g st1 => exact ih (List.cons.inj (List.cons.inj hst).2).2

theorem StackOk.proc_shape {st : List QFrame} (h : StackOk st)
    {st1 st2 : List QFrame} {mode : PMode} {todo kept idle : List Slot} {ph : Phase}
    (hst : st = st1 ++ QFrame.proc mode todo kept idle ph :: st2) :
    todo ≠ [] ∧ ∃ k r, st2 = .wait k :: r := by
  cases h with
  | nil => cases st1 <;> cases hst
  | prog hk | done hk =>
    cases st1 with
    | nil => cases hst
    | cons f st1 => exact hk.proc_shape (List.cons.inj hst).2

/-- the machine never takes one of the `none` branches of `step` before the program has ended -/
theorem QInv.progress (b : QBeh) {c : QCfg} (h : QInv c) (hne : c.stack ≠ []) :
    (QCfg.step b c).isSome = true := by
  have hsp := step_spec b c h.shape
  cases hs : QCfg.step b c with
  | some _ => rfl
  | none =>
    rw [hs] at hsp
    rcases hsp with hst | ⟨mode, s, rest, kept, idle, hm, he⟩
    · exact absurd hst hne
    · have := (h.vinv.focc _ (mem_procFrames hm)).1 s (.head _)
      rw [he] at this
      cases this

theorem mem_evsOf {l : List Slot} {e : QEvent} : e ∈ evsOf l ↔ ∃ s ∈ l, s.ev = some e := by
  simp [evsOf, List.mem_filterMap]

theorem VStep.live {v w : View} (hs : VStep v w) :
    v.nextSeq ≤ w.nextSeq ∧ ∀ e ∈ evsOf (liveV w), e ∈ evsOf (liveV v) ∨ v.nextSeq ≤ e.seq := by
  refine ⟨by cases hs <;> simp, fun e he => ?_⟩
  obtain ⟨s, hs', he⟩ := mem_evsOf.mp he
  rw [mem_evsOf]
  -- the slot was live before, unless it has just been cleared (`clearHead`) or filled (`enqFree`, `enqNew`)
  suffices s ∈ liveV v ∨ s.ev = none ∨ ∃ key arg, s.ev = some ⟨v.nextSeq, key, arg⟩ by
    rcases this with h | h | ⟨_, _, h⟩
    · exact .inl ⟨s, h, he⟩
    · rw [h] at he; cases he
    · rw [h] at he; cases he; exact .inr (Nat.le_refl _)
  cases hs with
  | enqFree | enqNew =>
    simp only [liveV, List.mem_append, mem_settle, List.mem_singleton] at hs' ⊢
    rcases hs' with (h | rfl) | h
    · exact .inl (.inl h)
    · exact .inr (.inr ⟨_, _, rfl⟩)
    · exact .inl (.inr h)
  | take s0 r e0 hq he0 =>
    simp only [liveV, List.mem_append, hq, List.mem_cons] at hs' ⊢
    rcases hs' with h | h <;> simp only [h, true_or, or_true]
  | clear =>
    simp only [liveV, List.mem_append, List.not_mem_nil, false_or] at hs' ⊢
    simp only [hs', true_or, or_true]
  | start todo q hq =>
    simp only [liveV, hq, inflightV_cons, List.mem_append, List.not_mem_nil, or_false] at hs' ⊢
    rcases hs' with h | h | h <;> simp only [h, true_or, or_true]
  | finish todo kept idle fs hf =>
    simp only [liveV, hf, inflightV_cons, List.mem_append, mem_putBack] at hs' ⊢
    rcases hs' with ((h | h) | h) | h <;> simp only [h, true_or, or_true]
  | clearHead s0 rest kept idle fs hf =>
    simp only [liveV, hf, inflightV_cons, List.mem_append, List.mem_cons, List.not_mem_nil, or_false] at hs' ⊢
    rcases hs' with h | ((h | h) | (h | h)) | h <;> simp only [h, clr_ev, true_or, or_true]
  | decline s0 rest kept idle fs hf hsome =>
    simp only [liveV, hf, inflightV_cons, List.mem_append, List.mem_cons, List.not_mem_nil, or_false] at hs' ⊢
    rcases hs' with h | ((h | (h | h)) | h) | h <;> simp only [h, eq_self, true_or, or_true]

theorem VSteps.live {v w : View} (hs : VSteps v w) :
    v.nextSeq ≤ w.nextSeq ∧ ∀ e ∈ evsOf (liveV w), e ∈ evsOf (liveV v) ∨ v.nextSeq ≤ e.seq := by
  induction hs with
  | refl => exact ⟨Nat.le_refl _, fun e he => .inl he⟩
  | tail _ s ih =>
    have := s.live
    refine ⟨Nat.le_trans ih.1 this.1, ?_⟩
    intro e he
    rcases this.2 e he with h | h
    · exact ih.2 e h
    · exact .inr (Nat.le_trans ih.1 h)

theorem inflightV_view (c : QCfg) : inflightV (view c).frames = c.inflight :=
  inflightV_procFrames c.stack

theorem liveV_view (c : QCfg) : liveV (view c) = c.queue ++ c.inflight :=
  congrArg (c.queue ++ ·) (inflightV_view c)

namespace Reachable
variable {b : QBeh} {c : QCfg}

theorem queue_occupied (h : Reachable b c) : ∀ s ∈ c.queue, s.ev.isSome := h.inv.vinv.qocc

theorem free_empty (h : Reachable b c) : ∀ s ∈ c.free, s.ev = none := h.inv.vinv.fempty

theorem frame_slots (h : Reachable b c) {mode : PMode} {todo kept idle : List Slot} {ph : Phase}
    (hm : QFrame.proc mode todo kept idle ph ∈ c.stack) :
    (∀ s ∈ todo, s.ev.isSome) ∧ (∀ s ∈ kept, s.ev.isSome) ∧ (∀ s ∈ idle, s.ev = none) :=
  h.inv.vinv.focc _ (mem_procFrames hm)

theorem sids_perm (h : Reachable b c) :
    (sidsOf (c.queue ++ c.free ++ c.inflight)).Perm (List.range c.nextSlot) :=
  inflightV_view c ▸ h.inv.vinv.sids

theorem once_perm (h : Reachable b c) :
    (seqsOf c.queue ++ seqsOf c.inflight ++ consumedSeqs c.trace).Perm (List.range c.nextSeq) :=
  inflightV_view c ▸ h.inv.vinv.once

theorem fifo (h : Reachable b c) (ho : c.ordered = none) :
    (seqsOf (pendS c.stack ++ c.queue)).Pairwise (· < ·) :=
  pendV_procFrames c.stack ▸ h.inv.vinv.fifo ho

theorem guard (h : Reachable b c) : c.ec = procCount c.stack :=
  length_procFrames c.stack ▸ h.inv.vinv.guard

theorem todo_ne_nil (h : Reachable b c) {mode : PMode} {todo kept idle : List Slot} {ph : Phase}
    (hm : QFrame.proc mode todo kept idle ph ∈ c.stack) : todo ≠ [] :=
  have ⟨_, _, hst⟩ := List.append_of_mem hm
  (h.shape.proc_shape hst).1

theorem proc_above_wait (h : Reachable b c) {st1 st2 : List QFrame} {mode : PMode}
    {todo kept idle : List Slot} {ph : Phase}
    (hst : c.stack = st1 ++ QFrame.proc mode todo kept idle ph :: st2) : ∃ k r, st2 = .wait k :: r :=
  (h.shape.proc_shape hst).2

theorem progress (h : Reachable b c) (hne : c.stack ≠ []) : (QCfg.step b c).isSome = true :=
  h.inv.progress b hne

theorem step_views (h : Reachable b c) {c' : QCfg} (hs : QCfg.step b c = some c') :
    VSteps (view c) (view c') := (step_shape_views b c c' h.shape hs).2

theorem nextSeq_mono (h : Reachable b c) {c' : QCfg} (hs : QCfg.step b c = some c') :
    c.nextSeq ≤ c'.nextSeq := (h.step_views hs).live.1

theorem empty_consumed (h : Reachable b c) (he : c.emptyQueue = true) :
    c.queue = [] ∧ procCount c.stack = 0 ∧ c.inflight = [] ∧
    (consumedSeqs c.trace).Perm (List.range c.nextSeq) := by
  simp only [QCfg.emptyQueue, Bool.and_eq_true, List.isEmpty_iff, beq_iff_eq] at he
  have hpc : procCount c.stack = 0 := h.guard ▸ he.2
  have hin : c.inflight = [] := inflightS_of_procCount_zero hpc
  have := h.once_perm
  rw [he.1, hin] at this
  exact ⟨he.1, hpc, hin, this⟩

end Reachable

end Evp.Q
