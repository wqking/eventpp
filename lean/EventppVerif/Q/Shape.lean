import EventppVerif.Q.InvCor
/-
  Stack-shape invariant of the queue machine: what sits directly above a processing-call frame.

  A `.proc mode todo kept idle phase` frame is never on top of the stack; its `todo` is never empty
  and its head slot holds an event `e` (the event being examined); in phase `.disp` the frame
  directly above it is the dispatch of `e.key` (`.filt e.key ..`, `.iter e.key ..` or `.done`);
  in phase `.pred` it is the predicate's program (`.prog _`, or `.wait _` while the predicate
  itself dispatches).  What lies BELOW a frame is the other invariant, `StackOk` of Q/Inv.lean; neither
  implies the other (header of Q/Reach.lean).  `Shape` is kept by the steps of a configuration whose
  stack is `StackOk` (`shape_step`): a processing frame then lies on the `.wait` frame of the program
  that made the call, so the blocks of a processing call are stated for `.wait k :: k'` below, and the
  branches of the machine that `StackOk` excludes are not looked at.
-/
namespace Evp.Q
open QCfg

/-- `f` belongs to a dispatch of event `key` (`.done`: the dispatch has just ended) -/
def isDisp (key : Nat) : QFrame → Prop
  | .filt k _ _ _ => k = key
  | .iter k _ _ => k = key
  | .done => True
  | _ => False

def isProgish : QFrame → Prop
  | .prog _ => True
  | .wait _ => True
  | _ => False

/-- what a processing-call frame with this `todo` and `phase` needs directly above it -/
def aboveOK (above : Option QFrame) (todo : List Slot) (ph : Phase) : Prop :=
  ∃ f s r e, above = some f ∧ todo = s :: r ∧ s.ev = some e ∧
    (match ph with
     | .disp => isDisp e.key f
     | .pred => isProgish f)

def frameOK (above : Option QFrame) : QFrame → Prop
  | .proc _ todo _ _ ph => aboveOK above todo ph
  | _ => True

/-- `Shape above st`: the stack segment `st` is well shaped when `above` is the frame directly above
    it (`none`: `st` is the whole stack) -/
def Shape : Option QFrame → List QFrame → Prop
  | _, [] => True
  | above, f :: rest => frameOK above f ∧ Shape (some f) rest

@[simp] theorem Shape_nil (a) : Shape a [] = True := rfl
theorem Shape_cons (a f rest) : Shape a (f :: rest) = (frameOK a f ∧ Shape (some f) rest) := rfl

@[simp] theorem frameOK_prog (a p) : frameOK a (.prog p) = True := rfl
@[simp] theorem frameOK_wait (a k) : frameOK a (.wait k) = True := rfl
@[simp] theorem frameOK_filt (a k x r c) : frameOK a (.filt k x r c) = True := rfl
@[simp] theorem frameOK_iter (a k x r) : frameOK a (.iter k x r) = True := rfl
@[simp] theorem frameOK_done (a) : frameOK a .done = True := rfl
@[simp] theorem frameOK_proc (a m t k i p) : frameOK a (.proc m t k i p) = aboveOK a t p := rfl

theorem frameOK.mono {f f' : QFrame} {g : QFrame} (h : frameOK (some f) g)
    (hd : ∀ k, isDisp k f → isDisp k f') (hp : isProgish f → isProgish f') :
    frameOK (some f') g := by
  cases g with
  | proc m t k i ph =>
    obtain ⟨f0, s, r, e, hf, ht, he, hph⟩ := h
    cases hf
    refine ⟨f', s, r, e, rfl, ht, he, ?_⟩
    cases ph
    · exact hp hph
    · exact hd _ hph
  | _ => trivial

theorem Shape.mono {f f' : QFrame} {st : List QFrame} (h : Shape (some f) st)
    (hd : ∀ k, isDisp k f → isDisp k f') (hp : isProgish f → isProgish f') :
    Shape (some f') st := by
  cases st with
  | nil => trivial
  | cons g rest => exact ⟨h.1.mono hd hp, h.2⟩

theorem Shape.progish {f f' : QFrame} {st : List QFrame} (h : Shape (some f) st) (hf : isProgish f)
    (hf' : isProgish f') : Shape (some f') st :=
  h.mono (fun _ hk => by cases f <;> first | exact hf.elim | exact hk.elim) (fun _ => hf')

/-- every dispatch frame of `key` may sit on `below` -/
def DispAll (key : Nat) (below : List QFrame) : Prop := ∀ g, isDisp key g → Shape (some g) below

theorem DispAll.of_frame {key below} {f : QFrame} (h : Shape (some f) below)
    (hk : ∀ k, isDisp k f → key = k) (hp : ¬ isProgish f) : DispAll key below :=
  fun _ hg => h.mono (fun k hkf => hk k hkf ▸ hg) (fun hp' => (hp hp').elim)

theorem DispAll.of_proc {mode s rest kept idle e k k'} (hev : s.ev = some e)
    (h : Shape (some (.wait k)) k') :
    DispAll e.key (.proc mode (s :: rest) kept idle .disp :: .wait k :: k') :=
  fun g hg => ⟨⟨g, s, rest, e, rfl, rfl, hev, hg⟩, trivial, h⟩

theorem nextListener_shape (b : QBeh) (c : QCfg) (key arg : Nat) (snap : List Entry)
    (below : List QFrame) (h : DispAll key below) :
    Shape none (nextListener b c key arg snap below).stack := by
  unfold nextListener
  split
  · exact ⟨trivial, h .done trivial⟩
  · exact ⟨trivial, trivial, h (.iter key arg _) rfl⟩

theorem nextFilter_shape (b : QBeh) (c : QCfg) (key arg : Nat) (snap : List Entry)
    (below : List QFrame) (h : DispAll key below) :
    Shape none (nextFilter b c key arg snap below).stack := by
  unfold nextFilter
  split
  · exact nextListener_shape b c key arg _ below h
  · exact ⟨trivial, trivial, h (.filt key arg _ _) rfl⟩

theorem finishProc_shape (c : QCfg) (mode : PMode) (kept idle : List Slot) {k k'}
    (h : Shape (some (.wait k)) k') : Shape none (finishProc c mode kept idle (.wait k :: k')).stack :=
  ⟨trivial, h.progish trivial trivial⟩

theorem procNext_shape (b : QBeh) (c : QCfg) (mode : PMode) (todo kept idle : List Slot) {k k'}
    (h : Shape (some (.wait k)) k') :
    Shape none (procNext b c mode todo kept idle (.wait k :: k')).stack := by
  unfold procNext
  split
  · exact finishProc_shape c mode kept idle h
  · next s rest =>
    split
    · exact finishProc_shape c mode _ idle h
    · next e hev =>
      split
      · exact nextFilter_shape b c _ _ _ _ (.of_proc hev h)
      · exact nextFilter_shape b c _ _ _ _ (.of_proc hev h)
      · exact ⟨trivial, ⟨_, s, rest, e, rfl, rfl, hev, trivial⟩, trivial, h⟩
      · exact ⟨trivial, ⟨_, s, rest, e, rfl, rfl, hev, trivial⟩, trivial, h⟩

theorem endDispatch_shape (b : QBeh) (c : QCfg) {below : List QFrame} (hc : COk true below)
    (h : Shape (some .done) below) : Shape none (endDispatch b c below).stack := by
  cases hc with
  | wait _ => exact ⟨trivial, h.2.progish trivial trivial⟩
  | disp _ => exact procNext_shape b _ _ _ _ _ h.2.2

theorem startProc_shape (b : QBeh) (c : QCfg) (mode : PMode) (k : QRes → QProg)
    (rest : List QFrame) {p} (h : Shape (some (.prog p)) rest) :
    Shape none (startProc b c mode k rest).stack := by
  unfold startProc
  split
  · exact ⟨trivial, h.progish trivial trivial⟩
  · split
    · exact procNext_shape b _ mode _ [] [] (h.progish trivial trivial)

theorem shape_step {b : QBeh} {c c' : QCfg} (hok : StackOk c.stack) (h : Shape none c.stack)
    (hs : step b c = some c') : Shape none c'.stack := by
  -- one bullet per arm of the `match` in `step`, in its order
  unfold step at hs
  split at hs
  · cases hs
  · next hst =>
    rw [hst] at h
    split at hs <;> cases hs
    · exact nextFilter_shape b c _ _ _ _ (.of_frame h.2.2 (fun _ => id) id)
    · exact ⟨trivial, h.2.2.mono (fun k _ => trivial) (fun hp => hp.elim)⟩
  · next hst =>
    rw [hst] at h
    split at hs <;> cases hs
    · exact nextListener_shape b c _ _ _ _ (.of_frame h.2.2 (fun _ => id) id)
    · exact ⟨trivial, h.2.2.mono (fun k _ => trivial) (fun hp => hp.elim)⟩
  · next hst =>
    rw [hst] at h hok
    obtain ⟨k, k', rfl⟩ := (hok.proc_shape (st1 := [_]) rfl).2
    split at hs
    · next hev =>
      split at hs <;> cases hs
      · exact nextFilter_shape b c _ _ _ _ (.of_proc hev h.2.2.2)
      · exact procNext_shape b c _ _ _ _ h.2.2.2
    · next hev =>
      split at hs <;> cases hs
      · exact finishProc_shape c _ _ _ h.2.2.2
      · exact nextFilter_shape b c _ _ _ _ (.of_proc hev h.2.2.2)
    · cases hs
  · next h1 h2 h3 hst =>
    cases hs
    rw [hst] at hok
    cases hok with | prog hk =>
    cases hk with
    | nil => trivial
    | filt _ => exact (h1 _ _ _ _ _ rfl).elim
    | iter _ => exact (h2 _ _ _ _ rfl).elim
    | pred _ _ => exact (h3 _ _ _ _ _ _ rfl).elim
  · next hst =>
    cases hs
    rw [hst] at h
    exact nextFilter_shape b c _ _ _ _ fun _ _ => ⟨trivial, h.2.progish trivial trivial⟩
  · next hst => cases hs; rw [hst] at h; exact startProc_shape b c _ _ _ h.2
  · next hst => cases hs; rw [hst] at h; exact startProc_shape b c _ _ _ h.2
  · next hst => cases hs; rw [hst] at h; exact startProc_shape b c _ _ _ h.2
  · next hst => cases hs; rw [hst] at h; exact startProc_shape b c _ _ _ h.2
  · next hst => cases hs; rw [hst] at h; exact ⟨trivial, h.2.progish trivial trivial⟩
  · next hst =>
    cases hs
    rw [hst] at h hok
    cases hok with | done hc =>
    exact endDispatch_shape b c hc h.2
  all_goals cases hs

theorem reachE_shape {b : QBeh} {c : QCfg} (hr : ReachE b c) : Shape none c.stack := by
  replace hr := reachE_iff_reachable.1 hr
  induction hr with
  | init h0 =>
    obtain ⟨_, _, _, _, _, _, _, hst⟩ := h0
    exact hst ▸ ⟨trivial, trivial⟩
  | step hr' hs ih => exact shape_step hr'.shape ih hs

theorem getLast?_cons_or {α} (x : α) (xs : List α) (a : Option α) :
    (x :: xs).getLast?.or a = xs.getLast?.or (some x) := by
  rw [List.getLast?_cons, Option.or_some, Option.some_or]

/-- the frame directly above `g` is the last one of `xs`, or `a` if `xs` is empty -/
theorem Shape.at_frame {g : QFrame} {ys : List QFrame} :
    ∀ (xs : List QFrame) (a : Option QFrame), Shape a (xs ++ g :: ys) → frameOK (xs.getLast?.or a) g
  | [], _, h => h.1
  | x :: xs, a, h => getLast?_cons_or x xs a ▸ Shape.at_frame xs (some x) h.2

end Evp.Q
