import EventppVerif.Q.InvCor
/-
  An exception escaping a processing call of the queue machine (Q/Machine.lean), as stack
  unwinding.

  The exception is thrown by the program on top of the stack (a listener, a filter, a predicate,
  or a copy made on their behalf) and nobody in between catches it.  It passes through the frames
  of the running dispatch (`.filt`, `.iter`, `.done`: nothing to undo, their state are locals),
  reaches the innermost processing call (`.proc`), whose locals are destroyed:

  * `tempList` / `idleList` (the slots `todo ++ kept ++ idle`) are destroyed together with the
    events they still hold — there is no put-back on this path (eventqueue.h, `process`,
    `processOne`, `processIf`, `processUntil`: the `splice` back is after the loop);
  * `CounterGuard` restores `queueEmptyCounter`: `ec := ec - 1`;

  and leaves the processing call towards its caller.  CHOICE: the `.wait k` frame under the
  `.proc` frame — the continuation the caller would have run with the *result* of the call — is
  removed as well and nothing is pushed: the call has no result.  What is left is the stack "below
  a running program" (`COk false`); the caller's handler is modelled by putting any program on it
  (`resume`).  `unwind` is applied again for an exception that keeps travelling through
  an enclosing processing call (`unwindN`).

  With no processing call on the stack, the exception leaves everything: `stack := []`, and for a
  reachable `c`, where `ec` counts the processing calls (`Reachable.guard`), `ec - 1 = 0 = ec`.

  `queue`, `free`, `lists`, `filters`, `trace` are not touched: writes that callbacks made before
  the throw stay, nothing is rolled back.
-/
namespace Evp.Q

/-- the continuation of the processing call that did not return -/
def dropWait : List QFrame → List QFrame
  | .wait _ :: r => r
  | r => r

/-- the frames that survive: those below the innermost processing call (and its `.wait`) -/
def belowProc : List QFrame → List QFrame
  | [] => []
  | .proc _ _ _ _ _ :: r => dropWait r
  | .prog _ :: r => belowProc r
  | .wait _ :: r => belowProc r
  | .filt _ _ _ _ :: r => belowProc r
  | .iter _ _ _ :: r => belowProc r
  | .done :: r => belowProc r

/-- the slots destroyed with the innermost processing call -/
def poppedSlots : List QFrame → List Slot
  | [] => []
  | .proc _ t k i _ :: _ => t ++ k ++ i
  | .prog _ :: r => poppedSlots r
  | .wait _ :: r => poppedSlots r
  | .filt _ _ _ _ :: r => poppedSlots r
  | .iter _ _ _ :: r => poppedSlots r
  | .done :: r => poppedSlots r

/-- an exception escapes the innermost processing call -/
def unwind (c : QCfg) : QCfg := { c with stack := belowProc c.stack, ec := c.ec - 1 }

/-- the exception escapes `n` nested processing calls in succession -/
def unwindN : Nat → QCfg → QCfg
  | 0, c => c
  | n + 1, c => unwindN n (unwind c)

/-- the slots destroyed by `unwindN n` -/
def discardedN : Nat → List QFrame → List Slot
  | 0, _ => []
  | n + 1, st => poppedSlots st ++ discardedN n (belowProc st)

@[simp] theorem procCount_nil : procCount [] = 0 := rfl
@[simp] theorem inflightS_nil : inflightS [] = [] := rfl

theorem procCount_cons (f : QFrame) (st : List QFrame) :
    procCount (f :: st) = (if isProc f then 1 else 0) + procCount st := by
  cases f <;> first | exact (Nat.zero_add _).symm | exact Nat.add_comm _ 1

theorem inflightS_cons (f : QFrame) (st : List QFrame) :
    inflightS (f :: st) = frameSlots f ++ inflightS st := rfl

theorem procFrames_dropWait (r : List QFrame) : procFrames (dropWait r) = procFrames r := by
  cases r with
  | nil => rfl
  | cons f r => cases f <;> rfl

theorem procCount_dropWait (r : List QFrame) : procCount (dropWait r) = procCount r := by
  rw [← length_procFrames, procFrames_dropWait, length_procFrames]

theorem inflightS_dropWait (r : List QFrame) : inflightS (dropWait r) = inflightS r := by
  rw [← inflightV_procFrames, procFrames_dropWait, inflightV_procFrames]

theorem pendS_dropWait (r : List QFrame) : pendS (dropWait r) = pendS r := by
  rw [← pendV_procFrames, procFrames_dropWait, pendV_procFrames]

theorem dropWait_suffix (r : List QFrame) : dropWait r <:+ r := by
  cases r with
  | nil => exact List.suffix_refl _
  | cons f r =>
    cases f <;> first
      | exact List.suffix_refl _
      | exact List.suffix_cons _ _

/- Induction over the stack: a frame that is no processing call is skipped by every function
   involved (by computation), a `.proc` frame ends the search. -/

theorem procCount_belowProc (st : List QFrame) : procCount (belowProc st) = procCount st - 1 := by
  induction st with
  | nil => rfl
  | cons f st ih => cases f <;> first | exact ih | exact procCount_dropWait st

theorem inflightS_belowProc (st : List QFrame) :
    inflightS st = poppedSlots st ++ inflightS (belowProc st) := by
  induction st with
  | nil => rfl
  | cons f st ih =>
    cases f <;> first | exact ih | exact congrArg (_ ++ ·) (inflightS_dropWait st).symm

theorem pendS_belowProc (st : List QFrame) : pendS (belowProc st) <+: pendS st := by
  induction st with
  | nil => exact List.prefix_refl _
  | cons f st ih =>
    cases f <;> first
      | exact (pendS_dropWait st).symm ▸ List.prefix_append _ _
      | exact ih.trans (List.prefix_append _ _)

theorem belowProc_suffix (st : List QFrame) : belowProc st <:+ st := by
  induction st with
  | nil => exact List.suffix_refl _
  | cons f st ih =>
    cases f <;> first
      | exact List.IsSuffix.trans (dropWait_suffix st) (List.suffix_cons _ _)
      | exact List.IsSuffix.trans ih (List.suffix_cons _ _)

theorem poppedSlots_of_procCount_zero {st : List QFrame} (h : procCount st = 0) : poppedSlots st = [] :=
  (List.append_eq_nil_iff.mp ((inflightS_belowProc st).symm.trans (inflightS_of_procCount_zero h))).1

theorem belowProc_of_procCount_zero {st : List QFrame} (h : procCount st = 0) : belowProc st = [] := by
  induction st with
  | nil => rfl
  | cons f st ih => cases f <;> first | exact ih h | exact absurd h (Nat.succ_ne_zero _)

theorem exists_innermost {st : List QFrame} (h : 0 < procCount st) :
    ∃ above mode todo kept idle ph r, st = above ++ .proc mode todo kept idle ph :: r ∧
      procCount above = 0 ∧ belowProc st = dropWait r ∧ poppedSlots st = todo ++ kept ++ idle := by
  induction st with
  | nil => exact absurd h (Nat.lt_irrefl 0)
  | cons f st ih =>
    cases f with
    | proc mode todo kept idle ph => exact ⟨[], mode, todo, kept, idle, ph, st, rfl, rfl, rfl, rfl⟩
    | _ =>
      obtain ⟨a, m, t, k, i, ph, r, h1, h2, h3, h4⟩ := ih h
      exact ⟨_ :: a, m, t, k, i, ph, r, congrArg _ h1, h2, h3, h4⟩

theorem COk.belowProc {x : Bool} {st : List QFrame} (h : COk x st) : COk false (belowProc st) := by
  induction h with
  | nil => exact .nil
  | filt _ ih | iter _ ih | wait _ ih => exact ih
  | pred hk _ _ | disp hk _ => exact hk

theorem StackOk.belowProc {st : List QFrame} (h : StackOk st) : COk false (belowProc st) := by
  cases h with
  | nil => exact .nil
  | prog hk | done hk => exact hk.belowProc

@[simp] theorem unwind_queue (c : QCfg) : (unwind c).queue = c.queue := rfl
@[simp] theorem unwind_free (c : QCfg) : (unwind c).free = c.free := rfl
@[simp] theorem unwind_lists (c : QCfg) : (unwind c).lists = c.lists := rfl
@[simp] theorem unwind_filters (c : QCfg) : (unwind c).filters = c.filters := rfl
@[simp] theorem unwind_trace (c : QCfg) : (unwind c).trace = c.trace := rfl
@[simp] theorem unwind_nextSeq (c : QCfg) : (unwind c).nextSeq = c.nextSeq := rfl
@[simp] theorem unwind_nextSlot (c : QCfg) : (unwind c).nextSlot = c.nextSlot := rfl
@[simp] theorem unwind_nextId (c : QCfg) : (unwind c).nextId = c.nextId := rfl
@[simp] theorem unwind_ordered (c : QCfg) : (unwind c).ordered = c.ordered := rfl
@[simp] theorem unwind_nkeys (c : QCfg) : (unwind c).nkeys = c.nkeys := rfl
@[simp] theorem unwind_stack (c : QCfg) : (unwind c).stack = belowProc c.stack := rfl
@[simp] theorem unwind_ec (c : QCfg) : (unwind c).ec = c.ec - 1 := rfl

theorem unwind_guard {c : QCfg} (h : c.ec = procCount c.stack) :
    (unwind c).ec = procCount (unwind c).stack := by
  simp [h, procCount_belowProc]

theorem unwindN_guard {c : QCfg} (h : c.ec = procCount c.stack) (n : Nat) :
    (unwindN n c).ec = procCount (unwindN n c).stack := by
  induction n generalizing c with
  | zero => exact h
  | succ n ih => exact ih (unwind_guard h)

theorem unwindN_keeps (c : QCfg) (n : Nat) :
    (unwindN n c).queue = c.queue ∧ (unwindN n c).free = c.free ∧ (unwindN n c).lists = c.lists ∧
    (unwindN n c).filters = c.filters ∧ (unwindN n c).trace = c.trace ∧
    (unwindN n c).nextSeq = c.nextSeq ∧ (unwindN n c).nextSlot = c.nextSlot ∧
    (unwindN n c).ordered = c.ordered := by
  induction n generalizing c with
  | zero => exact ⟨rfl, rfl, rfl, rfl, rfl, rfl, rfl, rfl⟩
  | succ n ih => exact ih (unwind c)

theorem unwindN_inflight (c : QCfg) (n : Nat) :
    c.inflight = discardedN n c.stack ++ (unwindN n c).inflight := by
  induction n generalizing c with
  | zero => simp [discardedN, unwindN]
  | succ n ih =>
    have h1 : c.inflight = poppedSlots c.stack ++ (unwind c).inflight := inflightS_belowProc c.stack
    rw [h1, ih (unwind c)]
    simp [discardedN, unwindN]

theorem unwindN_stack_suffix (c : QCfg) (n : Nat) : (unwindN n c).stack <:+ c.stack := by
  induction n generalizing c with
  | zero => exact List.suffix_refl _
  | succ n ih => exact List.IsSuffix.trans (ih (unwind c)) (belowProc_suffix c.stack)

/-- the caller catches the exception and goes on with program `p` -/
def resume (c : QCfg) (p : QProg) : QCfg := { unwind c with stack := .prog p :: (unwind c).stack }

theorem COk.unwindN {c : QCfg} (h : COk false c.stack) (n : Nat) : COk false (unwindN n c).stack := by
  induction n generalizing c with
  | zero => exact h
  | succ n ih => exact ih h.belowProc

theorem unwindN_resumable {c : QCfg} (h : StackOk c.stack) {n : Nat} (hn : 0 < n) (p : QProg) :
    StackOk (.prog p :: (unwindN n c).stack) := by
  obtain ⟨n, rfl⟩ := Nat.exists_eq_succ_of_ne_zero (Nat.ne_of_gt hn)
  exact .prog (COk.unwindN (c := unwind c) h.belowProc n)

theorem perm_move_mid (a p i c : List Nat) : (a ++ i ++ c ++ p).Perm (a ++ (p ++ i) ++ c) := by
  rw [List.perm_iff_count]
  intro x
  simp only [List.count_append]
  omega

end Evp.Q
