import EventppVerif.Q.InvView
import EventppVerif.Q.Reach
/-
  Every step of the queue machine (Q/Machine.lean) is a sequence of abstract view transitions and
  keeps the stack shape; hence every reachable configuration satisfies `QInv`.
-/
namespace Evp.Q
open QCfg

theorem VSteps.single {v w : View} (h : VStep v w) : VSteps v w := .tail (.refl _) h
theorem VSteps.head {u v w : View} (h1 : VStep u v) (h2 : VSteps v w) : VSteps u w := by
  induction h2 with
  | refl => exact .single h1
  | tail _ s ih => exact .tail ih s

theorem VSteps.preserves {P : View → Prop} (hP : ∀ v w, P v → VStep v w → P w) {v w : View}
    (hs : VSteps v w) (h : P v) : P w := by
  induction hs with
  | refl => exact h
  | tail _ s ih => exact hP _ _ ih s

/-- What every building block of `step` establishes: the new stack is well shaped and the new view is
    reached from `v` by view transitions.  In the lemmas below `v` is `viewS c st` for the stack `st` the
    block returns to: the frames of a dispatch and the phase of a processing call are not part of the view,
    so `viewS c st` and `viewS c st'` are the same by computation when `st` and `st'` differ only there. -/
structure StepsTo (v : View) (c' : QCfg) : Prop where
  shape : StackOk c'.stack
  views : VSteps v (view c')

theorem StepsTo.head {u v : View} {c' : QCfg} (h1 : VStep u v) (h2 : StepsTo v c') : StepsTo u c' :=
  ⟨h2.shape, .head h1 h2.views⟩

theorem stepsTo_nextListener (b : QBeh) (c : QCfg) (key arg : Nat) (snap : List Entry) {below : List QFrame}
    (h : COk true below) : StepsTo (viewS c below) (nextListener b c key arg snap below) := by
  unfold nextListener
  split
  · exact ⟨.done h, .refl _⟩
  · exact ⟨.prog (.iter h), .refl _⟩

theorem stepsTo_nextFilter (b : QBeh) (c : QCfg) (key arg : Nat) (snap : List Entry) {below : List QFrame}
    (h : COk true below) : StepsTo (viewS c below) (nextFilter b c key arg snap below) := by
  unfold nextFilter
  split
  · exact stepsTo_nextListener _ _ _ _ _ h
  · exact ⟨.prog (.filt h), .refl _⟩

/-- A processing call can end with `todo` non-empty (the `break` of `processUntil`; the empty-head branch of
    `procNext`, dead by `VInv.focc`), and `VStep.finish` puts back `kept ++ todo`.  `K` is what the caller
    hands to `finishProc` (`kept`, or `kept ++ s :: rest`); it is a variable so that each caller shows its own
    form equal to `kept ++ todo`. -/
theorem stepsTo_finishProc (c : QCfg) (mode : PMode) (K todo kept idle : List Slot) (ph : Phase)
    (k : QRes → QProg) {k' : List QFrame} (hK : K = kept ++ todo) (h : COk false k') :
    StepsTo (viewS c (.proc mode todo kept idle ph :: .wait k :: k'))
      (finishProc c mode K idle (.wait k :: k')) :=
  hK ▸ ⟨.prog h, .single (.finish (viewS c (.proc mode todo kept idle ph :: .wait k :: k')) todo kept idle _ rfl)⟩

theorem stepsTo_procNext (b : QBeh) (c : QCfg) (mode : PMode) (todo kept idle : List Slot) (ph : Phase)
    (k : QRes → QProg) {k' : List QFrame} (h : COk false k') :
    StepsTo (viewS c (.proc mode todo kept idle ph :: .wait k :: k'))
      (procNext b c mode todo kept idle (.wait k :: k')) := by
  unfold procNext
  split
  · exact stepsTo_finishProc c mode kept [] kept idle ph k (List.append_nil _).symm h
  · split
    · exact stepsTo_finishProc c mode _ _ kept idle ph k rfl h
    · split
      · exact stepsTo_nextFilter _ _ _ _ _ (.disp h)
      · exact stepsTo_nextFilter _ _ _ _ _ (.disp h)
      · exact ⟨.prog (.pred h rfl), .refl _⟩
      · exact ⟨.prog (.pred h rfl), .refl _⟩

theorem stepsTo_endDispatch (b : QBeh) (c : QCfg) {below : List QFrame} (h : COk true below) :
    StepsTo (viewS c below) (endDispatch b c below) := by
  cases h with
  | wait hk => exact ⟨.prog hk, .refl _⟩
  | @disp mode s rest kept idle k k' hk =>
    unfold endDispatch
    refine .head ?_ (stepsTo_procNext b _ mode rest kept _ .disp k hk)
    have := VStep.clearHead (viewS c (.proc mode (s :: rest) kept idle .disp :: .wait k :: k')) s rest kept idle _ rfl
    cases he : s.ev <;> simp only [he] at this <;> exact this

theorem stepsTo_startProc (b : QBeh) (c : QCfg) (mode : PMode) (k : QRes → QProg) {rest : List QFrame}
    (h : COk false rest) : StepsTo (viewS c rest) (startProc b c mode k rest) := by
  unfold startProc
  split
  · exact ⟨.prog h, .refl _⟩
  · split
    rename_i todo q hm
    have hq : c.queue = todo ++ q := by
      split at hm
      · cases hm; exact (List.take_append_drop 1 c.queue).symm
      · cases hm; exact (List.append_nil _).symm
    refine .head ?_ (stepsTo_procNext b _ mode todo [] [] .disp k h)
    exact .start (viewS c rest) todo q hq

theorem consumedSeqs_clear (q : List Slot) (tr : List QEv) :
    consumedSeqs (((q.filterMap (·.ev)).map (fun e => QEv.consumed e.seq 2)).reverse ++ tr)
      = (seqsOf q).reverse ++ consumedSeqs tr := by
  unfold consumedSeqs seqsOf
  rw [List.filterMap_append, List.filterMap_reverse, List.filterMap_map, List.filterMap_filterMap]
  congr 3
  funext s
  cases s.ev <;> rfl

theorem vsteps_apply (c : QCfg) (cmd : QCmd) (st : List QFrame) :
    VSteps (viewS c st) (viewS (c.apply cmd).1 st) := by
  -- `view` is unfolded together with `apply`: comparing `c` with `{ c with lists := … }` as arguments
  -- of `view` is slow to fail
  cases cmd <;> simp only [QCfg.apply, viewS, view]
  case enqueue key arg =>
    split
    · rename_i s fr hf
      exact .single (.enqFree (viewS c st) s fr key arg hf)
    · rename_i hf
      exact .single (.enqNew (viewS c st) key arg hf)
  case take =>
    split
    · split
      · rename_i s r hq _ e he
        exact .single (.take (viewS c st) s r e hq he)
      · exact .refl _
    · exact .refl _
  case clear =>
    split
    · exact .refl _
    · rw [consumedSeqs_clear]
      exact .single (.clear (viewS c st))
  all_goals repeat' split
  all_goals exact .refl _

/-- `none` only on the empty stack and on a predicate frame whose head slot is empty (`VInv` excludes it) -/
def StepOk (v : View) (st : List QFrame) : Option QCfg → Prop
  | some c' => StepsTo v c'
  | none => st = [] ∨ ∃ mode s rest kept idle,
      QFrame.proc mode (s :: rest) kept idle .pred ∈ st ∧ s.ev = none

theorem step_spec (b : QBeh) (c : QCfg) (hs : StackOk c.stack) :
    StepOk (view c) c.stack (step b c) := by
  generalize hst : c.stack = st at hs
  rw [show view c = viewS c st from hst ▸ rfl]
  cases hs with
  | nil => simp only [step, hst]; exact .inl rfl
  | done hr =>
    simp only [step, hst]
    exact stepsTo_endDispatch _ _ hr
  | @prog p k hk =>
    cases p with
    | ret v =>
      cases hk with
      | nil =>
        simp only [step, hst]
        exact ⟨.nil, .refl _⟩
      | filt hr =>
        simp only [step, hst]
        split
        · exact stepsTo_nextFilter _ _ _ _ _ hr
        · exact ⟨.done hr, .refl _⟩
      | iter hr =>
        simp only [step, hst]
        split
        · exact stepsTo_nextListener _ _ _ _ _ hr
        · exact ⟨.done hr, .refl _⟩
      | @pred mode s rest kept idle k k' hk' hm =>
        cases he : s.ev with
        | none =>
          cases mode with
          | all | one => cases hm
          | ifp p | untilp p =>
            simp only [step, hst, he]
            exact .inr ⟨_, s, rest, kept, idle, .tail _ (.head _), he⟩
        | some e =>
          cases mode with
          | all | one => cases hm
          | ifp p =>
            simp only [step, hst, he]
            split
            · exact stepsTo_nextFilter _ _ _ _ _ (.disp hk')
            · exact .head (.decline _ s rest kept idle _ rfl (he ▸ rfl))
                (stepsTo_procNext b c _ rest (kept ++ [s]) idle .pred k hk')
          | untilp p =>
            simp only [step, hst, he]
            split
            · exact stepsTo_finishProc c _ _ (s :: rest) kept idle .pred k rfl hk'
            · exact stepsTo_nextFilter _ _ _ _ _ (.disp hk')
    | op cmd kk =>
      -- the last arm of `step`, for a command that stays a variable: `apply` is never unfolded
      have happ : ∀ cmd', step b c = (let (c1, r) := c.apply cmd'
            some { c1 with stack := .prog (kk r) :: k, trace := .res r :: c1.trace }) →
          StepOk (viewS c (.prog (.op cmd kk) :: k)) (.prog (.op cmd kk) :: k) (step b c) :=
        fun cmd' he => he ▸ ⟨.prog hk, vsteps_apply c cmd' k⟩
      cases cmd
      case dispatch key arg =>
        simp only [step, hst]
        exact stepsTo_nextFilter _ _ _ _ _ (.wait hk)
      case process | processOne | processIf | processUntil =>
        simp only [step, hst]
        exact stepsTo_startProc _ _ _ _ hk
      all_goals exact happ _ (by simp only [step, hst]; rfl)

theorem step_shape_views (b : QBeh) (c c' : QCfg) (hs : StackOk c.stack) (h : step b c = some c') :
    StackOk c'.stack ∧ VSteps (view c) (view c') := by
  have := step_spec b c hs
  rw [h] at this
  exact ⟨this.shape, this.views⟩

theorem init_inv {c : QCfg} (h : Init c) : QInv c := by
  obtain ⟨hq, hf, hec, hseq, hslot, htr, p, hst⟩ := h
  refine ⟨hst ▸ .prog .nil, ?_⟩
  unfold view
  rw [hq, hf, hec, hseq, hslot, htr, hst]
  exact ⟨List.forall_mem_nil _, List.forall_mem_nil _, List.forall_mem_nil _, .nil, .nil, fun _ => .nil, rfl⟩

theorem Reachable.shape {b : QBeh} {c : QCfg} (h : Reachable b c) : StackOk c.stack := by
  induction h with
  | init h => exact (init_inv h).shape
  | step _ hs ih => exact (step_shape_views b _ _ ih hs).1

theorem Reachable.view_induction {b : QBeh} {c : QCfg} {P : View → Prop}
    (h0 : ∀ c0, Init c0 → P (view c0)) (hs : ∀ v w, P v → VStep v w → P w)
    (h : Reachable b c) : P (view c) := by
  induction h with
  | init h => exact h0 _ h
  | step hr hst ih => exact (step_shape_views b _ _ hr.shape hst).2.preserves hs ih

theorem Reachable.inv {b : QBeh} {c : QCfg} (h : Reachable b c) : QInv c :=
  ⟨h.shape, h.view_induction (fun _ h0 => (init_inv h0).vinv) fun _ _ => VInv.step⟩

end Evp.Q
