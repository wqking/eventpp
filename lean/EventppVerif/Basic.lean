/-
  Basic vocabulary shared by every model: node heaps with `upd`, results, commands,
  interaction-tree programs and behaviour tables.

  Nothing here imports Mathlib, so the driver (a `lean_exe`) links.
-/
namespace Evp

/-- Callback identity (the harness uses the same number for the real callable). -/
abbrev Cb := Nat
/-- A handle is the creation index of the node it was returned for.  An index that was
    never issued denotes the empty handle. -/
abbrev Hd := Nat

/-- One node of `CallbackListBase::Node`.  `counter = 0` is `removedCounter`. -/
structure Node where
  prev : Option Nat := none
  next : Option Nat := none
  cb : Cb := 0
  counter : Nat := 0
deriving DecidableEq, Repr

instance : Inhabited Node := ⟨{}⟩

/-- A total store `Nat → α` with a default, backed by an array so that the compiled driver has
    O(1) access.  Proofs use only `upd_get`. -/
structure Store (α : Type) where
  arr : Array α := #[]

namespace Store
variable {α : Type} [Inhabited α]
def get (s : Store α) (i : Nat) : α := (s.arr[i]?).getD default
instance : CoeFun (Store α) (fun _ => Nat → α) := ⟨get⟩
end Store

section
variable {α : Type} [Inhabited α]

/-- Point-wise update. -/
def upd (s : Store α) (i : Nat) (v : α) : Store α :=
  ⟨(s.arr ++ Array.replicate (i + 1 - s.arr.size) default).setIfInBounds i v⟩

theorem upd_get (s : Store α) (i j : Nat) (v : α) :
    (upd s i v) j = if j = i then v else s j := by
  show Store.get _ j = if j = i then v else Store.get s j
  simp only [Store.get, upd, Array.getElem?_setIfInBounds, Array.getElem?_append, Array.getElem?_replicate,
    Array.size_append, Array.size_replicate]
  by_cases h : j = i
  · subst h
    rw [if_pos rfl, if_pos rfl, if_pos (by omega)]
    rfl
  · rw [if_neg (Ne.symm h), if_neg h]
    split
    · rfl
    · -- a read beyond the old array, inside or beyond the padding, is the default
      rw [Array.getElem?_eq_none (by omega)]
      split <;> rfl

@[simp] theorem upd_same (s : Store α) (i : Nat) (v : α) : (upd s i v) i = v := by
  rw [upd_get, if_pos rfl]

@[simp] theorem upd_other (s : Store α) (i j : Nat) (v : α) (hne : j ≠ i) :
    (upd s i v) j = s j := by
  rw [upd_get, if_neg hne]

theorem forall_upd {P : α → Prop} {ls : Store α} (h : ∀ s, P (ls s)) (i : Nat) {v : α} (hv : P v)
    (s : Nat) : P ((upd ls i v) s) := by
  rw [upd_get]; split
  · exact hv
  · exact h s

theorem upd_upd_other (s : Store α) {a b c : Nat} (x y : α) (h1 : c ≠ a) (h2 : c ≠ b) :
    upd (upd s a x) b y c = s c := by
  rw [upd_other _ _ _ _ h2, upd_other _ _ _ _ h1]

/-- `swap(a, b)` of two slots of a store, also when `a = b` -/
theorem upd_swap_fst (s : Store α) (a b : Nat) : upd (upd s a (s b)) b (s a) a = s b := by
  rw [upd_get]
  split
  · next e => rw [e]
  · exact upd_same _ _ _

@[simp] theorem Store.empty_get (i : Nat) : ({} : Store α) i = default := by
  show Store.get _ i = default
  simp [Store.get]
end

theorem Store.map_get {α β : Type} [Inhabited α] [Inhabited β] (f : α → β) (hf : f default = default)
    (s : Store α) (i : Nat) : (⟨s.arr.map f⟩ : Store β) i = f (s i) := by
  show Store.get _ i = f (Store.get s i)
  unfold Store.get
  simp only [Array.getElem?_map]
  cases s.arr[i]? with
  | none => simp [hf]
  | some x => rfl

abbrev Heap := Store Node

/-- Result of a command, handed to the continuation of the issuing program. -/
inductive Res
  | unit
  | bool (b : Bool)
  | handle (h : Hd)
deriving DecidableEq, Repr, Inhabited

/-- Public operations on a world of callback lists (list id = dispatcher key). -/
inductive Cmd
  | append (l : Nat) (cb : Cb)
  | prepend (l : Nat) (cb : Cb)
  | insert (l : Nat) (cb : Cb) (before : Hd)
  | remove (l : Nat) (h : Hd)
  | owns (l : Nat) (h : Hd)
  | empty (l : Nat)
  /-- `operator()` / `dispatch`: call every callback; the callbacks' verdicts are ignored. -/
  | invoke (l : Nat) (arg : Nat)
  /-- `forEachIf`: visit every callback; stop at the first visit whose verdict is `false`. -/
  | enum (l : Nat) (arg : Nat)
  /-- `dst = src` (copy assignment; copy construction is assignment into an empty slot) -/
  | copyAssign (dst src : Nat)
  /-- `dst = std::move(src)` -/
  | moveAssign (dst src : Nat)
  | swap (a b : Nat)
  /-- harness-only: `currentCounter := max currentCounter (M - k)` for `0 < k ≤ M` (places the wrap, C19) -/
  | setCounter (l : Nat) (k : Nat)
deriving DecidableEq, Repr

/-- Programs are interaction trees: the next command may depend on every earlier result.
    `ret v` ends the program; `v` is the verdict of a callback / visitor (`true` = go on). -/
inductive Prog
  | ret (verdict : Bool)
  | op (c : Cmd) (k : Res → Prog)

/-- One observable call: (list, handle, callback, argument, verdict-honouring enumeration?). -/
structure Call where
  list : Nat
  h : Hd
  cb : Cb
  arg : Nat
  enum : Bool
deriving DecidableEq, Repr

/-- What each callback does, given the call (list, its own handle, callback id, argument,
    invocation or enumeration) and how often that callback id has been called before.
    Theorems quantify over every `Beh`. -/
abbrev Beh := Call → Nat → Prog

/-- Observable events of a run: every callback call and the result of every command, at any
    nesting depth, in execution order (the trace is kept newest first). -/
inductive Ev
  | call (c : Call)
  | res (r : Res)
deriving DecidableEq, Repr

def Ev.isCallOf (cb : Cb) : Ev → Bool
  | .call c => c.cb == cb
  | .res _ => false

def countCalls (tr : List Ev) (cb : Cb) : Nat := (tr.filter (Ev.isCallOf cb)).length

theorem countCalls_call (cl : Call) (tr : List Ev) (w : Cb) :
    countCalls (.call cl :: tr) w = countCalls tr w + (if cl.cb = w then 1 else 0) := by
  unfold countCalls
  by_cases h : cl.cb = w <;> simp [Ev.isCallOf, h]

theorem countCalls_res (r : Res) (tr : List Ev) (w : Cb) : countCalls (.res r :: tr) w = countCalls tr w := rfl

end Evp
