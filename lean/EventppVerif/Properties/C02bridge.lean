import EventppVerif.CL.PtrBridge
import EventppVerif.CL.WFOps
/-
  Properties C01 / C02 — bridge from the pointer Model to the source text of callbacklist.h.

  The simulation theorem (C02) and everything built on it speak about the hand-written pointer
  Model (`CL.linkBack`, `CL.linkBefore`, `CL.freeNode`, `guard`, `CL.remove`).  The bodies of
  `doAppend`, `doInsert`, `doFreeNode`, the test in the loop of `doForEachIf` and the test in
  `remove()` are re-read from /repo on every run (Generated/ClFrag.lean, as terms of the little
  pointer language `PL.Stmt` and as boolean functions).  The theorems below say that on every
  well-formed list state (every reachable state: `MInv`, C02) executing the SOURCE statements gives
  exactly the Model's result — same heap at every address, same `head`, same `tail`, no null
  dereference.  `CL.linkFront` has no such bridge: the source links the new node inline in `prepend()`, there is
  no function body to re-read.  Two bridges of the same kind for other properties stand here as well: the wrap
  branch of `getNextCounter` (`C19_bridge_wrapReset`) and that the test of `insert()` is made under the mutex
  (`C03_bridge_insert_locked`).
-/
namespace Evp
open Evp.PL Evp.Gen.Cl

/-- **`doFreeNode` (source) = `freeNode` (Model)** on every well-formed list, for every node of the
    list. -/
theorem C02_bridge_doFreeNode (fuel : Nat) {l : CL} {L : List Nat} {b : Nat} (w : WF l L b) {n : Nat} (hn : n ∈ L) :
    Agrees (exec fuel doFreeNode (ofCL l (some n) none)) (l.freeNode n) :=
  bridge_doFreeNode fuel l n (w.no_self hn).1 (w.no_self hn).2

/-- **`doAppend` (source) = `linkBack` (Model)** on every well-formed list, for a freshly allocated
    node. -/
theorem C02_bridge_doAppend (fuel : Nat) {l : CL} {L : List Nat} {b : Nat} (w : WF l L b) (id : Nat) (hid : b ≤ id)
    (cb : Cb) (c : Nat) :
    Agrees (exec fuel doAppend (ofCL (allocated l id cb c) (some id) none)) (l.linkBack id cb c) := by
  apply bridge_doAppend
  rw [w.head_eq, w.tail_eq]
  cases hL : L.getLast? with
  | none => simp [List.getLast?_eq_none_iff.mp hL]
  | some t =>
    -- the last node of the chain was allocated before `id`
    have := w.lt t (List.mem_of_getLast? hL)
    exact fun _ => ⟨t, rfl, by omega⟩

/-- **`doInsert` (source) = `linkBefore` (Model)** on every well-formed list, for a freshly
    allocated node and a `before` node of the list. -/
theorem C02_bridge_doInsert (fuel : Nat) {l : CL} {L : List Nat} {b : Nat} (w : WF l L b) (id : Nat) (hid : b ≤ id)
    (cb : Cb) (c : Nat) {bn : Nat} (hbn : bn ∈ L) :
    Agrees (exec fuel doInsert (ofCL (allocated l id cb c) (some id) (some bn))) (l.linkBefore id cb c bn) := by
  apply bridge_doInsert
  have := w.lt bn hbn
  omega

/-- **the wrap branch of `getNextCounter` (source) = the Model's.**  When the next draw wraps, the
    Model's `nextCounter` leaves the heap that the source's reset loop computes (every node linked
    from `head` gets generation 1), `head` and `tail` untouched, and the loop runs under the list mutex
    (so it is one critical section in the concurrent model). -/
theorem C19_bridge_wrapReset (fuel : Nat) (l : CL) (hw : l.willWrap = true) :
    (l.nextCounter fuel).1.heap = (exec fuel wrapReset (ofCL l none none)).heap ∧
    (exec fuel wrapReset (ofCL l none none)).head = l.head ∧
    (exec fuel wrapReset (ofCL l none none)).tail = l.tail ∧
    (exec fuel wrapReset (ofCL l none none)).ub = false ∧
    wrapResetLocked = true := by
  obtain ⟨h1, h2, h3, h4⟩ := bridge_wrapReset fuel l
  exact ⟨by rw [h1, nextCounter_wrap hw], h2, h3, h4, by decide⟩

/-- the traversal test of `doForEachIf` in the source is the Model's `guard` -/
theorem C02_bridge_guard (nc cap : Nat) : Gen.Cl.guard nc cap = Evp.guard nc cap := rfl

/-- the test of `remove()` in the source is the Model's: `remove` acts, and returns true, exactly
    when the handle locks and the node's counter is not `removedCounter` (a handle that does not lock
    denotes a node whose counter is `removedCounter` in the Model, hence the `true`) -/
theorem C02_bridge_remove (l : CL) (h : Hd) : (l.remove h).2 = removeTest true ((l.heap h).counter) := by
  unfold CL.remove removeTest
  by_cases hc : (l.heap h).counter = 0 <;> simp [hc]

/-- the test of `insert()` in the source is the Model's: link before `before` exactly when that
    node is still in the list, otherwise at the back -/
theorem C02_bridge_insert (l : CL) (fuel id : Nat) (cb : Cb) (before : Hd) :
    l.insert fuel id cb before =
      if insertTest (((l.nextCounter fuel).1.heap before).counter) then
        (l.nextCounter fuel).1.linkBefore id cb (l.nextCounter fuel).2 before
      else (l.nextCounter fuel).1.linkBack id cb (l.nextCounter fuel).2 := by
  unfold CL.insert insertTest
  by_cases h : ((l.nextCounter fuel).1.heap before).counter = 0 <;> simp [h]

/-- … and it is made under the list mutex, in the block that links the node: in the concurrent model
    (Conc/CList.lean) the test and the link are one critical section -/
theorem C03_bridge_insert_locked : insertTestLocked = true := by decide

end Evp
