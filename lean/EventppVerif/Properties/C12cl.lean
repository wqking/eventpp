import EventppVerif.Properties.C01
/-
  Property C12, the `canContinueInvoking` clause at the level of the callback list (pointer Model).

  "With a canContinueInvoking policy, listeners are invoked in order until the policy returns false
  for the current arguments, after which no further listener of that dispatch runs."

  `CallbackList::operator()(args...)` is, in the source,
      forEachIf([&](Callback & cb) { cb(args...); return CanContinueInvoking::canContinueInvoking(args...); })
  i.e. the verdict-honouring traversal `enum` of the Model whose visit verdict is the policy's value
  on the arguments (`PolicyVisit`).  The theorems below are that traversal on the pointer Model,
  for every state related to a Spec state (every reachable state, C02).  The dispatcher / queue
  machine carries the same clause for direct and queued dispatches (`Properties/C12.lean`,
  `C12_canContinue_*`).
-/
namespace Evp

/-- every callback of `L` returns at once when called with `arg`, and the visit then reports what
    the policy `P` says about the arguments -/
def PolicyVisit (P : Nat → Bool) (beh : Beh) (l : Nat) (L : SList) (arg : Nat) : Prop :=
  ∀ e ∈ L, ∀ n, beh ⟨l, e.id, e.cb, arg, true⟩ n = .ret (P arg)

/-- **C12 (policy lets the invocation continue).**  `P arg = true`: every callback of the list is
    called, once, in list order, with `arg`; no list object changes. -/
theorem C12_cl_canContinue_all (P : Nat → Bool) (beh : Beh) {m : MCfg} {s : SCfg} (h : Sim m s)
    (l arg : Nat) (k : Res → Prog) (mrest : List MFrame)
    (hst : m.stack = .prog (.op (.enum l arg) k) :: mrest)
    (hb : PolicyVisit P beh l (s.lists l) arg) (hp : P arg = true) :
    (MCfg.runN beh ((s.lists l).length + 1) m).1.trace =
      .res (.bool true) :: ((callsOf l arg true (s.lists l)).reverse ++ m.trace) ∧
    (MCfg.runN beh ((s.lists l).length + 1) m).1.lists = m.lists := by
  have := C01_model_enum beh h l arg k mrest hst (fun e he n => by rw [hb e he n, hp])
  exact ⟨this.1, this.2.1⟩

/-- **C12 (policy stops the invocation).**  `P arg = false` and the list is `e :: Q`: exactly `e`
    is called (the policy is consulted only after a callback has run), nothing of `Q` is; no list
    object changes. -/
theorem C12_cl_canContinue_stop (P : Nat → Bool) (beh : Beh) {m : MCfg} {s : SCfg} (h : Sim m s)
    (l arg : Nat) (k : Res → Prog) (mrest : List MFrame)
    (hst : m.stack = .prog (.op (.enum l arg) k) :: mrest)
    (e : Entry) (Q : List Entry) (hl : s.lists l = e :: Q)
    (hb : PolicyVisit P beh l (s.lists l) arg) (hp : P arg = false) :
    (MCfg.runN beh 2 m).1.trace =
      .res (.bool false) :: .call ⟨l, e.id, e.cb, arg, true⟩ :: m.trace ∧
    (MCfg.runN beh 2 m).1.lists = m.lists := by
  have := C01_model_enum_stop beh h l arg k mrest hst [] e Q (by simpa using hl)
    (by simp) (fun n => by rw [hb e (by rw [hl]; simp) n, hp])
  exact ⟨by simpa [callsOf] using this.1, this.2.1⟩

/-- an empty list: nothing is called and the policy is never consulted -/
theorem C12_cl_canContinue_empty (beh : Beh) {m : MCfg} {s : SCfg} (h : Sim m s)
    (l arg : Nat) (k : Res → Prog) (mrest : List MFrame)
    (hst : m.stack = .prog (.op (.enum l arg) k) :: mrest) (hl : s.lists l = []) :
    (MCfg.runN beh 1 m).1.trace = .res (.bool true) :: m.trace := by
  have := C01_model_enum beh h l arg k mrest hst (by rw [hl]; simp)
  simpa [hl, callsOf] using this.1

end Evp
