/-
  Property C11 (concurrent part) — "A queue is never reported empty while an event is pending or in
  dispatch".

  "If emptyQueue returns true … then every event whose enqueue had completed before that call began
   has been fully consumed: its dispatch by process or processOne has returned on whichever thread
   ran it, or it was taken or cleared.  In particular the queue is seen as non-empty from inside a
   listener that process or processOne is running, and from every other thread during that time."

  Model: Conc/Queue.lean.  `emptyQueue()` is two unprotected reads: `queueList.empty()`
  (`emptyRead1`) and `queueEmptyCounter == 0` (`emptyRead2`); it answers `true` iff both hold.  A
  processing call increments `queueEmptyCounter` BEFORE it moves events out of `queueList` and
  decrements it AFTER its last dispatch (and after it has put declined events back).
  The ghost `seen` of an `emptyQueue` call is `nextEv` at the moment the call began = the number of
  events spliced in before the call began; an `enqueue` that had completed before has its id `< seen`.
  "Dispatch has happened" is the `procLoop` step that appends `(e, dispatched, t)` to `consumed`
  (the listener calls of one event are one micro-step of the model).

  The property deliberately excludes `processIf` / `processUntil`: their put-back makes the answer
  momentarily wrong (`C11_processIf_counterexample`, `C11_processUntil_counterexample`).

  Every theorem quantifies over every family of programs, both values of `dqnLocked`, every
  schedule.  The re-entrant case (`emptyQueue` called from inside a listener on the SAME thread) is
  the sequential property C11s (Q/Machine.lean); here a thread runs one call at a time, and
  `C11_nonempty_during_dispatch` covers every OTHER thread.
-/
import EventppVerif.Generated.QueueFrag
import EventppVerif.Conc.QueueInvB

namespace Evp.Conc

section
variable {progs : List (List Call)} {flag : Bool} {s s' : State}

/-- **C11 (guard).** In every reachable state `queueEmptyCounter` equals the number of threads that
    are inside a processing call between its `++queueEmptyCounter` and its `--queueEmptyCounter`
    (`procTake`, `procLoop`, `procPutBack`, `procPbReadNc`, `procPbNotify`, `procDec`: `guardActive`). -/
theorem C11_guard_counts (h : ReachF progs flag s) : s.ec = guardCount s := h.guard

/-- the same with `guardCount` written out -/
theorem C11_guard_counts' (h : ReachF progs flag s) :
    s.ec = s.threads.countP (fun th => guardActive th.pc) := h.guard

/-- a thread whose local lists are non-empty is inside the guarded part (by definition of the pcs) -/
theorem C11_inflight_guarded_pc (pc : PC) (h : inflightOf pc ≠ []) : guardActive pc = true := by
  cases pc
  case procLoop | procPutBack => rfl
  all_goals exact absurd rfl h

theorem inflightL_nil_of_guard_zero (l : List Thread) (h : guardCountL l = 0) : inflightL l = [] :=
  List.flatMap_eq_nil_iff.mpr fun th hth => Classical.byContradiction fun hi => by
    have := List.countP_eq_zero.mp h th hth
    rw [C11_inflight_guarded_pc th.pc hi] at this
    exact this rfl

/-- `queueEmptyCounter = 0` ⇒ no thread holds an event locally -/
theorem C11_ec_zero_no_inflight (h : ReachF progs flag s) (hz : s.ec = 0) : inflight s = [] :=
  inflightL_nil_of_guard_zero _ (by rw [← h.guard]; exact hz)

/-- **C11 (in flight ⇒ guarded).** While any thread holds events locally, `queueEmptyCounter ≥ 1`. -/
theorem C11_inflight_guarded (h : ReachF progs flag s) (hi : inflight s ≠ []) : 1 ≤ s.ec :=
  Nat.pos_of_ne_zero fun hz => hi (C11_ec_zero_no_inflight h hz)

theorem step_emptyRead2 {t : Tid} {th : Thread} {seen ch : Nat} (ht : getT s t = some th)
    (hpc : th.pc = .emptyRead2 seen) : step s t ch = some (finish s t th (.bool (s.ec == 0))) := by
  simp [step, ht, hpc]

theorem getT_finish {t : Tid} {th : Thread} (ht : getT s t = some th) (r : Ret) :
    getT (finish s t th r) t = some { th with pc := .idle, prog := th.prog.tail, rets := th.rets ++ [r] } := by
  rw [finish_eq, getT_setT_of ht rfl, if_pos rfl]

/-- Without `processIf` / `processUntil` (`NoIf`): once an `emptyQueue` call has read the list as empty, no event spliced in
    before the call began is in the list — events never return to the list. -/
theorem C11_seen_not_queued (hno : NoIf progs) (h : ReachF progs flag s) {t : Tid} {th : Thread} {seen : Nat}
    (ht : getT s t = some th) (hpc : th.pc = .emptyRead2 seen) :
    seen ≤ s.nextEv ∧ ∀ e, e < seen → e ∉ s.queue := by
  have := h.empty hno t th ht
  rw [hpc] at this
  exact this

/-- … so if in that state `queueEmptyCounter = 0` (the second read will make the call return
    `true`), every such event is consumed: taken, cleared, or its dispatch step has happened. -/
theorem C11_empty_true_state (hno : NoIf progs) (h : ReachF progs flag s) {t : Tid} {th : Thread} {seen : Nat}
    (ht : getT s t = some th) (hpc : th.pc = .emptyRead2 seen) (hec : s.ec = 0) :
    ∀ e, e < seen → e ∈ consumedIds s := by
  obtain ⟨h1, h2⟩ := C11_seen_not_queued hno h ht hpc
  intro e he
  rcases h.cons.mem_iff.mpr (show e < s.nextEv by omega) with hq | hi | hc
  · exact absurd hq (h2 e he)
  · rw [show inflightL s.threads = [] from C11_ec_zero_no_inflight h hec] at hi; cases hi
  · exact hc

/-- **C11 (emptyQueue = true).** For programs without `processIf` and without `processUntil` (`NoIf`,
    the two calls the property excludes): if the micro-step that performs
    the second read of an `emptyQueue()` call records the result `true`, then every event whose id
    is below `seen` — i.e. every event spliced in before the call began, in particular every event
    whose `enqueue` had completed before — is in `consumed` afterwards: it was taken, cleared, or
    dispatched (on whichever thread ran it). -/
theorem C11_empty_true (hno : NoIf progs) (h : ReachF progs flag s) {t : Tid} {th : Thread} {seen ch : Nat}
    (ht : getT s t = some th) (hpc : th.pc = .emptyRead2 seen) (hs : step s t ch = some s')
    (hret : ∃ th', getT s' t = some th' ∧ th'.rets = th.rets ++ [.bool true]) :
    ∀ e, e < seen → e ∈ consumedIds s' := by
  rw [step_emptyRead2 ht hpc] at hs
  injection hs with hs; subst hs
  obtain ⟨th', h1, h2⟩ := hret
  rw [getT_finish ht] at h1
  injection h1 with h1; subst h1
  exact C11_empty_true_state hno h ht hpc (by simpa using h2)

/-- **C11 (non-empty during dispatch).** For EVERY family of programs: while some thread `u` is
    inside a processing call between its `++queueEmptyCounter` and `--queueEmptyCounter` — in
    particular while it runs a listener — the second read of an `emptyQueue()` call of any thread
    records the result `false`. -/
theorem C11_nonempty_during_dispatch (h : ReachF progs flag s) {u t : Tid} {thu th : Thread} {seen ch : Nat}
    (hu : getT s u = some thu) (hgd : guardActive thu.pc = true)
    (ht : getT s t = some th) (hpc : th.pc = .emptyRead2 seen) (hs : step s t ch = some s') :
    ∃ th', getT s' t = some th' ∧ th'.rets = th.rets ++ [.bool false] := by
  rw [step_emptyRead2 ht hpc] at hs
  injection hs with hs; subst hs
  have hge := guardCountL_pos hu hgd
  rw [← h.guard] at hge
  exact ⟨_, getT_finish ht _, by rw [beq_false_of_ne (Nat.ne_of_gt hge)]⟩

/-- the first read already answers `false` while the list is non-empty -/
theorem C11_nonempty_while_queued {t : Tid} {th : Thread} {seen ch : Nat}
    (ht : getT s t = some th) (hpc : th.pc = .emptyRead1 seen) (hq : s.queue ≠ [])
    (hs : step s t ch = some s') :
    ∃ th', getT s' t = some th' ∧ th'.rets = th.rets ++ [.bool false] := by
  have : step s t ch = some (finish s t th (.bool false)) := by
    simp [step, ht, hpc, hq]
  rw [this] at hs
  injection hs with hs; subst hs
  exact ⟨_, getT_finish ht _, rfl⟩

end

namespace C11Demo

def rep (t n : Nat) : List (Tid × Nat) := List.replicate n (t, 0)

theorem step_of_isSome {s : State} {t ch : Nat} (h : (step s t ch).isSome = true) :
    step s t ch = some (exec s [(t, ch)]) := by
  cases hs : step s t ch with
  | none => rw [hs] at h; cases h
  | some s' => simp [exec, hs]

/-- producer, a `processIf` consumer that declines even ids, an observer calling `emptyQueue` -/
def progsIf : List (List Call) := [[.enqueue], [.processIf false], [.emptyQueue]]

/-- the producer enqueues event 0; the consumer raises `ec`, swaps the list out and declines event 0
    (it is now in its `kept` list); the observer starts `emptyQueue` and reads the list as empty -/
def schedIf1 : List (Tid × Nat) := rep 0 5 ++ rep 1 6 ++ rep 2 2

/-- … the consumer puts event 0 back, notifies (nobody waits) and lowers `ec`; the observer reads `ec = 0` -/
def schedIf2 : List (Tid × Nat) := schedIf1 ++ rep 1 4 ++ rep 2 1

example : (exec (init progsIf) schedIf1).queue = [] ∧ (exec (init progsIf) schedIf1).ec = 1 ∧
    (exec (init progsIf) schedIf1).threads.map (·.pc) = [.idle, .procPutBack [0] false, .emptyRead2 1] := by
  decide +kernel

/-- **Counter-example with `processIf`.** There is a reachable state in which `emptyQueue()` has
    just returned `true` although event 0, whose `enqueue` had completed before the call began, is
    pending in the queue and has never been consumed. -/
theorem C11_processIf_counterexample :
    ∃ s, Reach progsIf s ∧ (s.threads.map (·.rets))[2]? = some [Ret.bool true] ∧
      s.queue = [0] ∧ consumedIds s = [] ∧ enqueuedIds s = [0] ∧
      (s.threads.map (·.rets))[0]? = some [Ret.unit] :=
  ⟨exec (init progsIf) schedIf2, ⟨schedIf2, rfl⟩, by decide +kernel⟩

/-- the same with `processUntil` (stop at the first even id: it stops at event 0 and puts it back) -/
def progsUntil : List (List Call) := [[.enqueue], [.processUntil false], [.emptyQueue]]

def schedUntil : List (Tid × Nat) := rep 0 5 ++ rep 1 5 ++ rep 2 2 ++ rep 1 4 ++ rep 2 1

example : (exec (init progsUntil) (rep 0 5 ++ rep 1 5 ++ rep 2 2)).queue = [] ∧
    (exec (init progsUntil) (rep 0 5 ++ rep 1 5 ++ rep 2 2)).threads.map (·.pc) =
      [.idle, .procPutBack [0] false, .emptyRead2 1] := by
  decide +kernel

/-- **Counter-example with `processUntil`.** `emptyQueue()` has just returned `true` although event 0,
    whose `enqueue` had completed before the call began, is pending in the queue (put back by
    `processUntil`) and has never been consumed. -/
theorem C11_processUntil_counterexample :
    ∃ s, Reach progsUntil s ∧ (s.threads.map (·.rets))[2]? = some [Ret.bool true] ∧
      s.queue = [0] ∧ consumedIds s = [] ∧ enqueuedIds s = [0] ∧
      (s.threads.map (·.rets))[0]? = some [Ret.unit] :=
  ⟨exec (init progsUntil) schedUntil, ⟨schedUntil, rfl⟩, by decide +kernel⟩

/-- producer, a `process` consumer, an observer calling `emptyQueue` twice -/
def progsP : List (List Call) := [[.enqueue], [.process], [.emptyQueue, .emptyQueue]]

theorem progsP_ok : NoIf progsP := by unfold NoIf progsP; decide

/-- event 0 enqueued; the consumer has swapped the list out (event 0 is in its `todo`, not yet
    dispatched); the observer has read the list as empty -/
def schedP1 : List (Tid × Nat) := rep 0 5 ++ rep 1 4 ++ rep 2 2

example : (exec (init progsP) schedP1).queue = [] ∧ (exec (init progsP) schedP1).ec = 1 ∧
    (exec (init progsP) schedP1).threads.map (·.pc) = [.idle, .procLoop 0 [0] [] false, .emptyRead2 1] := by
  decide +kernel

/-- `C11_nonempty_during_dispatch` applies: the observer's second read answers `false` -/
example : ∃ th', getT (exec (init progsP) (schedP1 ++ [(2, 0)])) 2 = some th' ∧ th'.rets = [] ++ [.bool false] := by
  have hr : ReachF progsP true (exec (init progsP) schedP1) := ⟨schedP1, rfl⟩
  have hs := step_of_isSome (s := exec (init progsP) schedP1) (t := 2) (ch := 0) (by decide +kernel)
  rw [← exec_append] at hs
  exact C11_nonempty_during_dispatch hr (u := 1) (t := 2)
    (thu := { prog := [.process], pc := .procLoop 0 [0] [] false })
    (th := { prog := [.emptyQueue, .emptyQueue], pc := .emptyRead2 1 }) (seen := 1)
    (by decide +kernel) rfl (by decide +kernel) rfl hs

/-- the consumer dispatches event 0 and finishes; the observer's second call reads the list empty -/
def schedP2 : List (Tid × Nat) := schedP1 ++ [(2, 0)] ++ rep 1 3 ++ rep 2 2

example : (exec (init progsP) schedP2).queue = [] ∧ (exec (init progsP) schedP2).ec = 0 ∧
    (exec (init progsP) schedP2).threads.map (·.pc) = [.idle, .idle, .emptyRead2 1] ∧
    (exec (init progsP) schedP2).consumed = [(0, .dispatched, 1)] := by
  decide +kernel

/-- non-vacuity of `C11_empty_true`: its hypotheses hold for the observer's second call, which
    returns `true`; the conclusion says event 0 is consumed -/
example : ∀ e, e < 1 → e ∈ consumedIds (exec (init progsP) (schedP2 ++ [(2, 0)])) := by
  have hr : ReachF progsP true (exec (init progsP) schedP2) := ⟨schedP2, rfl⟩
  have hs := step_of_isSome (s := exec (init progsP) schedP2) (t := 2) (ch := 0) (by decide +kernel)
  rw [← exec_append] at hs
  exact C11_empty_true progsP_ok hr (t := 2)
    (th := { prog := [.emptyQueue], pc := .emptyRead2 1, rets := [.bool false] }) (seen := 1)
    (by decide +kernel) rfl hs
    ⟨{ prog := [], pc := .idle, rets := [.bool false, .bool true] }, by decide +kernel, rfl⟩

example : (exec (init progsP) (schedP2 ++ [(2, 0)])).threads.map (·.rets) =
    [[.unit], [.bool true], [.bool false, .bool true]] := by decide +kernel

end C11Demo

/-- bridge to the source (regenerated on every run): `emptyQueue()` reads the list first and the
    guard counter second, in both queue classes — the order the model's `emptyRead1`/`emptyRead2`
    steps (and the proofs above) assume. -/
theorem C11_bridge_read_order :
    Evp.Gen.Queue.homo_listFirst = true ∧ Evp.Gen.Queue.heter_listFirst = true := by decide
end Evp.Conc
