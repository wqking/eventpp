import EventppVerif.Q.Copy
import EventppVerif.CL.SpecLaws
import EventppVerif.Generated.CtorFrag
/-
  Property C10, queue / dispatcher part (the callback-list part is Properties/C10.lean):
  a copy-constructed or move-constructed queue holds the same listeners and filters in the same
  order, no pending events, reports empty, and none of its state depends on what its storage held
  before: every scalar member is named in every constructor's initialiser list (table regenerated
  from the source on every run, Generated/CtorFrag.lean).
-/
namespace Evp.Q
open Evp.Gen.Ctor

/-- **No member is left to the previous content of memory**: in every constructor (default, copy,
    move) of `EventQueueBase`, `HeterEventQueueBase` and `CallbackListBase`, every scalar data member
    (the atomic counters) is initialised — for the table regenerated from the current source. -/
theorem C10_init : ∀ e ∈ table, e.scalar = true → e.initialised = true := by decide +kernel

/-- **… and a copied / moved / fresh object starts with its own counters at zero**: every scalar member
    is initialised with the literal `0` (or by a constructor that delegates to one that does) — a copy
    does not inherit the source's `queueNotifyCounter` (a `DisableQueueNotify` alive on the source does
    not disable the copy) nor its `queueEmptyCounter`. -/
theorem C10_counters_zero : ∀ e ∈ table, e.scalar = true → e.cls ≠ "SpinLock" →
    e.init = "0" ∨ e.init = "<delegated>" := by decide +kernel

/-- the table really covers the three constructors of the three classes (non-vacuity) -/
theorem C10_init_covers :
    (table.filter (fun e => e.scalar)).length ≥ 15 ∧
    (∃ e ∈ table, e.cls = "EventQueueBase" ∧ e.ctor = "copy" ∧ e.member = "queueEmptyCounter") ∧
    (∃ e ∈ table, e.cls = "HeterEventQueueBase" ∧ e.ctor = "move" ∧ e.member = "queueNotifyCounter") := by decide +kernel

theorem cloneLists_get (lists : Store SList) : ∀ (n id k : Nat), k < n →
    ∃ id', ((cloneLists lists n id).1 k) = (lists k).cloneWith id'
  | 0, _, _, h => by omega
  | n + 1, id, k, h => by
    simp only [cloneLists]
    by_cases hk : k = n
    · subst hk; exact ⟨_, upd_same ..⟩
    · obtain ⟨id', h'⟩ := cloneLists_get lists n id k (by omega)
      exact ⟨id', (upd_other _ _ k _ hk).trans h'⟩

/-- **Copy**: the copy has the same listener callbacks in the same order for every event, the same
    filters in the same order, no pending event, nothing in flight, and reports empty. -/
theorem C10_queue_copy (c : QCfg) :
    (∀ k < c.nkeys, ((c.copyOf.lists k).map (·.cb)) = (c.lists k).map (·.cb)) ∧
    c.copyOf.filters.map (·.cb) = c.filters.map (·.cb) ∧
    c.copyOf.queue = [] ∧ c.copyOf.ec = 0 ∧ c.copyOf.emptyQueue = true := by
  refine ⟨?_, ?_, rfl, rfl, rfl⟩
  · intro k hk
    obtain ⟨id', h⟩ := cloneLists_get c.lists c.nkeys c.nextId k hk
    simp only [QCfg.copyOf]
    rw [h, SList.cloneWith_cbs]
  · simp [QCfg.copyOf, SList.cloneWith_cbs]

/-- **Move**: the listeners and filters travel unchanged (same handles), the pending events do not;
    the new object reports empty. -/
theorem C10_queue_move (c : QCfg) :
    c.moveOf.lists = c.lists ∧ c.moveOf.filters = c.filters ∧ c.moveOf.queue = [] ∧
    c.moveOf.ec = 0 ∧ c.moveOf.emptyQueue = true := ⟨rfl, rfl, rfl, rfl, rfl⟩

/-- the new object is a legitimate starting point for every theorem about reachable
    configurations once a program is put on its stack: its queue, free list and guard are those of
    a fresh queue -/
theorem C10_queue_fresh (c : QCfg) :
    c.copyOf.queue = [] ∧ c.copyOf.free = [] ∧ c.copyOf.ec = 0 ∧
    c.moveOf.queue = [] ∧ c.moveOf.free = [] ∧ c.moveOf.ec = 0 := ⟨rfl, rfl, rfl, rfl, rfl, rfl⟩

end Evp.Q
