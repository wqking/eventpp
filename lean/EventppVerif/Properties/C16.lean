import EventppVerif.Util.WrappersAux
import EventppVerif.CL.Sim
/-
  Property C16 — CounterRemover and ConditionalRemover detach listeners exactly when promised.

  Model (Util/Wrappers.lean): the wrappers are behaviour transformers `counterBeh w n inner` /
  `condBeh w cond inner` for the callback-list machines of CL/Machine.lean: callback id `w` is the
  wrapped listener, `inner` is what the wrapped listener and every other callback do.  What one
  call of the counter wrapper does (`if(triggerCount <= 1) remove; else --triggerCount;`: the test,
  its threshold, and the decrement of the stored count) is the regenerated `Gen.Remover.call`; the
  proofs unfold it (`call_eq`, `call_not_due` in Util/WrappersAux.lean), so they are re-checked
  when the source changes.  The count is a 32-bit `int` (`dec32` wraps at `INT_MIN`, but is only
  ever applied to a count `> 1`: `C16_no_overflow`).

  The machine theorems are about the Spec machine `SCfg` (an invocation iterates over a snapshot
  and skips entries that are no longer present); the pointer-level Model `MCfg` produces the same
  trace (C02), which `C16_counter_bound_model` uses.  They quantify over every behaviour `inner`
  whose programs are `Clean w lw`, every start configuration as described, every number of steps
  — hence every interleaving with other listeners and every nesting depth.  `Clean`, `CmdOK`,
  `AboutToRemove` and the invariant `WInv` behind the bounds are defined in Util/WrappersAux.lean,
  where the lemmas are.

  `Clean w lw p`: no command of the interaction tree `p`, whatever results the earlier ones
  returned, registers callback id `w` again, enumerates (`forEachIf`) list `lw`, or copies, moves
  or swaps list `lw`.  (The machines count an enumeration visit as a call — `nth`, `countCalls` —
  although it does not run the wrapper; therefore enumerations of `lw` are outside these theorems.)
-/
namespace Evp.Wrap
open Evp.Gen.Remover

/-- **C16 (which call finds the test true).** For every trigger count `n` (every integer, hence
    every 32-bit `int` including `INT_MIN`) and every 0-based call number `k`: the regenerated
    wrapper finds the removal due on call `k` iff `k + 1 ≥ max(n,1)` — the first call that finds it
    due is call number `max(n,1)` (1-based), and every later call would too (the count stays
    `n - k` while that is `> 1`; once it is `≤ 1` it is never decremented again). -/
theorem C16_due_iff (n : Int) (k : Nat) :
    counterDue n k = true ↔ (k + 1 : Int) ≥ max n 1 :=
  counterDue_iff n k

/-- the same, in the form used below: every call before number `max(n,1)` finds the test false and
    call number `max(n,1)` finds it true. -/
theorem C16_due_first (n : Int) (k : Nat) :
    (k + 1 < (max n 1).toNat → counterDue n k = false) ∧
    (k + 1 = (max n 1).toNat → counterDue n k = true) := by
  rw [counterDue_eq]
  exact ⟨fun h => decide_eq_false (by omega), fun h => decide_eq_true (by omega)⟩

/-- a listener added with trigger count `INT_MIN` is removed on its first trigger, as
    `max(n,1) = 1` promises (the former `--triggerCount <= 0` overflowed here). -/
theorem C16_intmin_ok : counterDue intMin 0 = true ∧ max intMin 1 = 1 :=
  ⟨by decide, by decide⟩

/-- **C16 (no overflow).** Along the calls of one wrapper, a call that does not find the removal
    due — the only kind of call that decrements — has a stored count `> 1`: `dec32` is never
    applied to `INT_MIN`, and the decrement is the true subtraction. -/
theorem C16_no_overflow (n : Int) (k : Nat) (h : (call (countAfter k n)).1 = false) :
    countAfter k n > 1 ∧ countAfter k n ≠ intMin ∧ countAfter (k + 1) n = countAfter k n - 1 := by
  obtain ⟨h1, h2, h3, h4⟩ := call_not_due h
  exact ⟨h1, h2, by rw [← h4, ← h3]; exact countAfter_succ k n⟩

/-- the stored count in closed form (a count `≤ 1` is never changed; a count `n > 1` is `n - k`
    while that is `> 1` and stays `1` afterwards), and it stays a 32-bit `int`. -/
theorem C16_count (n : Int) (k : Nat) :
    countAfter k n = (if n ≤ 1 then n else max (n - k) 1) ∧
    (intMin ≤ n ∧ n ≤ intMax → intMin ≤ countAfter k n ∧ countAfter k n ≤ intMax) := by
  refine ⟨countAfter_eq k n, fun h => ?_⟩
  have hm : intMin = -2147483648 := rfl
  have hM : intMax = 2147483647 := rfl
  rw [countAfter_eq]
  split <;> omega

/-- **C16 (the wrapped listener runs whenever the wrapper is called).** For every call, the
    wrapper's program is the wrapped listener's program `inner call nth`, preceded by exactly one
    command `remove call.list call.h` (its own handle) iff it is an invocation of `w` whose test is
    true.  Same for the conditional wrapper, whose test is `cond call.arg`: a pure function of
    the trigger's argument, so it is evaluated on the trigger's argument, once per call. -/
theorem C16_wrapper_calls_inner (w : Cb) (n : Int) (cond : Nat → Bool) (inner : Beh) (call : Call) (nth : Nat) :
    (counterBeh w n inner call nth =
      if call.cb = w ∧ call.enum = false ∧ counterDue n nth = true
      then .op (.remove call.list call.h) (fun _ => inner call nth) else inner call nth) ∧
    (condBeh w cond inner call nth =
      if call.cb = w ∧ call.enum = false ∧ cond call.arg = true
      then .op (.remove call.list call.h) (fun _ => inner call nth) else inner call nth) :=
  ⟨rfl, rfl⟩

/-- hence, for every `n` and an invocation of `w` that is call number `nth + 1`: before call
    number `max(n,1)` the wrapper does nothing but run the listener; on call number `max(n,1)` it
    first removes its own handle. -/
theorem C16_counter_program (w : Cb) (n : Int) (inner : Beh) (call : Call) (nth : Nat)
    (hcb : call.cb = w) (hen : call.enum = false) :
    (nth + 1 < (max n 1).toNat → counterBeh w n inner call nth = inner call nth) ∧
    (nth + 1 = (max n 1).toNat →
      counterBeh w n inner call nth = .op (.remove call.list call.h) (fun _ => inner call nth)) :=
  ⟨fun h => if_neg (by simp [(C16_due_first n nth).1 h]),
   fun h => if_pos ⟨hcb, hen, (C16_due_first n nth).2 h⟩⟩

/-- for the conditional wrapper and an invocation of `w`: the call whose condition holds starts
    with the self-removal, a call whose condition does not hold is just the listener. -/
theorem C16_cond_program (w : Cb) (cond : Nat → Bool) (inner : Beh) (call : Call) (nth : Nat)
    (hcb : call.cb = w) (hen : call.enum = false) :
    (cond call.arg = false → condBeh w cond inner call nth = inner call nth) ∧
    (cond call.arg = true →
      condBeh w cond inner call nth = .op (.remove call.list call.h) (fun _ => inner call nth)) :=
  ⟨fun h => if_neg (by simp [h]), fun h => if_pos ⟨hcb, hen, h⟩⟩

/-- the regenerated facts about the order in the source: removal (when due) before the call of the
    wrapped listener, one evaluation of the condition per call -/
theorem C16_generated_flags : removeBeforeCall = true ∧ condEvaluatedOnce = true :=
  ⟨rfl, rfl⟩

/-- **C16 (removed ⇒ never called).** For every behaviour, configuration, list, remaining
    snapshot, argument and stack: when the Spec machine continues a traversal it either calls an
    entry of the snapshot that is present in the list *now* (and records that call), or none of
    the remaining entries is present and the traversal finishes.  So once the wrapper has removed
    its own handle no invocation — nested, outer or later — calls it again. -/
theorem C16_removed_never_called (beh : Beh) (c : SCfg) (l : Nat) (snap : List Entry) (arg : Nat)
    (honour : Bool) (below : List SFrame) :
    (∃ e es, e ∈ snap ∧ (c.lists l).present e.id = true ∧
      SCfg.seekCall beh c l snap arg honour below =
        { c with
          trace := .call ⟨l, e.id, e.cb, arg, honour⟩ :: c.trace
          stack := .prog (beh ⟨l, e.id, e.cb, arg, honour⟩ (countCalls c.trace e.cb)) ::
            .iter l es arg honour :: below }) ∨
    ((∀ e ∈ snap, (c.lists l).present e.id = false) ∧
      SCfg.seekCall beh c l snap arg honour below = c.deliver (MCfg.finishRes honour true) below) :=
  (SCfg.seekCall_cases beh c l snap arg honour below).imp_left fun ⟨e, es, he, _, h⟩ => ⟨e, es, he, h⟩

/-- the same for whole steps: every step of the Spec machine records nothing, one result, or one
    call; a recorded call is the call of a handle present in its list at that moment, the lists
    are unchanged by that step and the program started is `beh` of that call. -/
theorem C16_call_only_when_present (beh : Beh) (c c' : SCfg) (hs : SCfg.step beh c = some c') :
    c'.trace = c.trace ∨ (∃ r, c'.trace = .res r :: c.trace) ∨
    (∃ cl, c'.trace = .call cl :: c.trace ∧ (c.lists cl.list).present cl.h = true ∧ c'.lists = c.lists ∧
      ∃ rest, c'.stack = .prog (beh cl (countCalls c.trace cl.cb)) :: rest) := by
  have hdel : ∀ r below, (c.deliver r below).trace = c.trace ∨ ∃ r', (c.deliver r below).trace = .res r' :: c.trace := by
    intro r below
    unfold SCfg.deliver
    split
    · exact .inr ⟨r, rfl⟩
    · exact .inl rfl
  suffices hseek : ∀ l snap arg honour below, c' = SCfg.seekCall beh c l snap arg honour below →
      c'.trace = c.trace ∨ (∃ r, c'.trace = .res r :: c.trace) ∨
      (∃ cl, c'.trace = .call cl :: c.trace ∧ (c.lists cl.list).present cl.h = true ∧ c'.lists = c.lists ∧
        ∃ rest, c'.stack = .prog (beh cl (countCalls c.trace cl.cb)) :: rest) by
    rcases SCfg.step_inv hs with ⟨v, st, _, rfl⟩ | ⟨v, l, snap, arg, ho, below, _, rfl | e⟩ |
      ⟨l, arg, ho, k, rest, _, e⟩ | ⟨cmd, k, rest, _, rfl⟩
    · exact .inl rfl
    · exact (hdel _ _).imp_right .inl
    · exact hseek _ _ _ _ _ e
    · exact hseek _ _ _ _ _ e
    · exact .inr (.inl ⟨_, congrArg _ (SCfg.apply_trace c _ cmd)⟩)
  intro l snap arg honour below e
  rcases SCfg.seekCall_cases beh c l snap arg honour below with ⟨e', es, _, _, hp, he⟩ | ⟨_, he⟩ <;> rw [e, he]
  · exact .inr (.inr ⟨⟨l, e'.id, e'.cb, arg, honour⟩, rfl, hp, rfl, _, rfl⟩)
  · exact (hdel _ _).imp_right .inl

/-- the self-removal is effective: in a configuration where callback `w` is registered at most as
    entry `⟨hw, w⟩` of list `lw` and handle `hw` is used by no other entry, executing
    `remove lw hw` leaves `hw` not present in `lw`. -/
theorem C16_self_removal_effective (w lw hw : Nat) (c : SCfg) (busy : Nat → Bool) (hfresh : hw < c.nextId)
    (hent : ∀ l e, e ∈ c.lists l → (e.cb = w ∨ e.id = hw) → e.cb = w ∧ e.id = hw ∧ l = lw) :
    ((c.apply busy (.remove lw hw)).1.lists lw).present hw = false :=
  apply_remove_absent ⟨hfresh, hent⟩ busy

/-- **C16 (CounterRemover: at most `max(n,1)` calls, then detached).**
    For every trigger count `n` (`INT_MIN` included), every behaviour `inner` of the wrapped listener and of
    all other callbacks with `Clean w lw` programs, every start configuration `c0` in which
    callback `w` is registered at most as entry `⟨hw, w⟩` of list `lw` (and `hw` is an issued handle
    used by no other entry), no traversal is running (the stack is one `Clean` program `p`) and `w`
    has not been called yet, and every number `k` of steps of the Spec machine:
    the wrapped listener has been called at most `max(n,1)` times, and if it has been called
    `max(n,1)` times then its handle is no longer present in its list, or the top frame is the
    wrapper's program about to execute `remove lw hw` (the one-step window between the recording of
    call number `max(n,1)` and the removal).  By `C16_removed_never_called` it is then never called
    again, whatever the other listeners do and however deeply invocations are nested. -/
theorem C16_counter_bound (w lw hw : Nat) (n : Int) (inner : Beh)
    (hin : ∀ call nth, Clean w lw (inner call nth)) (c0 : SCfg) (p : Prog)
    (hstack : c0.stack = [.prog p]) (hp : Clean w lw p) (hfresh : hw < c0.nextId)
    (hent : ∀ l e, e ∈ c0.lists l → (e.cb = w ∨ e.id = hw) → e.cb = w ∧ e.id = hw ∧ l = lw)
    (hcount : countCalls c0.trace w = 0) (k : Nat) :
    countCalls (SCfg.runN (counterBeh w n inner) k c0).1.trace w ≤ (max n 1).toNat ∧
    (countCalls (SCfg.runN (counterBeh w n inner) k c0).1.trace w = (max n 1).toNat →
      ((SCfg.runN (counterBeh w n inner) k c0).1.lists lw).present hw = false ∨
      AboutToRemove lw hw (SCfg.runN (counterBeh w n inner) k c0).1.stack) := by
  rw [counterBeh_eq]
  have H := winv_run (due := fun _ nth => counterDue n nth) hin hstack hp hfresh hent hcount k
  have ht := counter_trace n _ H.trace
  exact ⟨ht.1, fun he => H.fired (ht.2.mpr he)⟩

/-- the bound on the pointer-level Model: for a Model configuration related to `c0` by the C02
    simulation and a run without generation-counter wrap (C19), the Model's trace has at most
    `max(n,1)` calls of the wrapped listener. -/
theorem C16_counter_bound_model (w lw hw : Nat) (n : Int) (inner : Beh)
    (hin : ∀ call nth, Clean w lw (inner call nth)) (c0 : SCfg) (p : Prog)
    (hstack : c0.stack = [.prog p]) (hp : Clean w lw p) (hfresh : hw < c0.nextId)
    (hent : ∀ l e, e ∈ c0.lists l → (e.cb = w ∨ e.id = hw) → e.cb = w ∧ e.id = hw ∧ l = lw)
    (hcount : countCalls c0.trace w = 0) (k : Nat) (m0 : MCfg) (hsim : Sim m0 c0)
    (nowrap : (MCfg.runN (counterBeh w n inner) k m0).1.wraps = m0.wraps) :
    countCalls (MCfg.runN (counterBeh w n inner) k m0).1.trace w ≤ (max n 1).toNat := by
  rw [(sim_runN (counterBeh w n inner) k hsim nowrap).1.trace]
  exact (C16_counter_bound w lw hw n inner hin c0 p hstack hp hfresh hent hcount k).1

/-- **C16 (ConditionalRemover: called up to and including the first trigger whose condition
    holds).**  Same quantification as `C16_counter_bound`, for every condition `cond`.  After every
    number of steps (the trace is newest first, so `tr2` is what happened before `cl`):
    every recorded call of `w` is an invocation of `⟨hw, w⟩` on `lw` before which no call of `w`
    had an argument satisfying the condition; and if some recorded call of `w` has an argument
    satisfying the condition, then `hw` is no longer present in `lw` or the top frame is the
    wrapper's program about to execute `remove lw hw`. -/
theorem C16_cond_bound (w lw hw : Nat) (cond : Nat → Bool) (inner : Beh)
    (hin : ∀ call nth, Clean w lw (inner call nth)) (c0 : SCfg) (p : Prog)
    (hstack : c0.stack = [.prog p]) (hp : Clean w lw p) (hfresh : hw < c0.nextId)
    (hent : ∀ l e, e ∈ c0.lists l → (e.cb = w ∨ e.id = hw) → e.cb = w ∧ e.id = hw ∧ l = lw)
    (hcount : countCalls c0.trace w = 0) (k : Nat) :
    (∀ tr1 cl tr2, (SCfg.runN (condBeh w cond inner) k c0).1.trace = tr1 ++ .call cl :: tr2 → cl.cb = w →
      cl.enum = false ∧ cl.list = lw ∧ cl.h = hw ∧
      ∀ cl', Ev.call cl' ∈ tr2 → cl'.cb = w → cond cl'.arg = false) ∧
    ((∃ cl, Ev.call cl ∈ (SCfg.runN (condBeh w cond inner) k c0).1.trace ∧ cl.cb = w ∧ cond cl.arg = true) →
      ((SCfg.runN (condBeh w cond inner) k c0).1.lists lw).present hw = false ∨
      AboutToRemove lw hw (SCfg.runN (condBeh w cond inner) k c0).1.stack) := by
  rw [condBeh_eq]
  have H := winv_run (due := fun call _ => cond call.arg) hin hstack hp hfresh hent hcount k
  refine ⟨fun tr1 cl tr2 e hcb => ?_, fun he => H.fired ((fired_cond_iff cond _).mpr he)⟩
  obtain ⟨h1, h2, h3, h4⟩ := traceOK_split tr1 (e ▸ H.trace) hcb
  refine ⟨h1, h2, h3, fun cl' hm hcb' => ?_⟩
  cases hc : cond cl'.arg with
  | false => rfl
  | true => rw [(fired_cond_iff (w := w) cond tr2).mpr ⟨cl', hm, hcb', hc⟩] at h4; cases h4

/-- A counted listener (callback 1, n = 2) and a plain one (callback 2) on list 0, invoked four
    times: the counted one is called exactly twice, the run halts. -/
example :
    calls (SCfg.runN (counterBeh 1 2 innerPlain) 100 { stack := [.prog (withTwo (invokes [0, 0, 0, 0]))] }).1.trace
      = [(1, 0), (2, 0), (1, 0), (2, 0), (2, 0), (2, 0)] ∧
    (SCfg.runN (counterBeh 1 2 innerPlain) 100 { stack := [.prog (withTwo (invokes [0, 0, 0, 0]))] }).2 = true := by
  decide +kernel

/-- Trigger count `INT_MIN`: the counted listener (callback 1), invoked three times, is called
    exactly once (`max(n,1) = 1`). -/
example :
    calls (SCfg.runN (counterBeh 1 intMin innerPlain) 100 { stack := [.prog (withTwo (invokes [0, 0, 0]))] }).1.trace
      = [(1, 0), (2, 0), (2, 0), (2, 0)] ∧
    (SCfg.runN (counterBeh 1 intMin innerPlain) 100 { stack := [.prog (withTwo (invokes [0, 0, 0]))] }).2 = true := by
  decide +kernel

/-- Nested: the counted listener (n = 2) re-invokes its list from inside; it is called twice in
    total (the second time from inside the first), callback 2 at every nesting level. -/
example :
    calls (SCfg.runN (counterBeh 1 2 innerNested) 100 { stack := [.prog (withTwo (invokes [0, 0]))] }).1.trace
      = [(1, 0), (1, 0), (2, 0), (2, 0), (2, 0), (2, 0)] ∧
    (SCfg.runN (counterBeh 1 2 innerNested) 100 { stack := [.prog (withTwo (invokes [0, 0]))] }).2 = true := by
  decide +kernel

/-- Conditional (`arg == 5`), triggers 1, 5, 7: called for 1 and 5 only. -/
example :
    calls (SCfg.runN (condBeh 1 (fun a => a == 5) innerPlain) 100
      { stack := [.prog (withTwo (invokes [1, 5, 7]))] }).1.trace
      = [(1, 1), (2, 1), (1, 5), (2, 5), (2, 7)] := by
  decide +kernel

/-- The hypotheses of `C16_counter_bound` are satisfiable: for the nested behaviour, the
    configuration `twoCfg args` (entries `⟨0,1⟩`, `⟨1,2⟩` on list 0, a program invoking it for every
    argument of `args`), every `args` and every number of steps, callback 1 is called at most
    twice. -/
example (args : List Nat) (k : Nat) :
    countCalls (SCfg.runN (counterBeh 1 2 innerNested) k (twoCfg args)).1.trace 1 ≤ 2 :=
  (C16_counter_bound 1 0 0 2 innerNested innerNested_clean (twoCfg args) _ rfl
    (invokes_clean 1 0 args) (by show (0 : Nat) < 2; decide) (twoCfg_ent args) rfl k).1

/-- the same with trigger count `INT_MIN`: at most one call. -/
example (args : List Nat) (k : Nat) :
    countCalls (SCfg.runN (counterBeh 1 intMin innerNested) k (twoCfg args)).1.trace 1 ≤ 1 :=
  (C16_counter_bound 1 0 0 intMin innerNested innerNested_clean (twoCfg args) _ rfl
    (invokes_clean 1 0 args) (by show (0 : Nat) < 2; decide) (twoCfg_ent args) rfl k).1

end Evp.Wrap
