import EventppVerif.CL.GhostTrace
import EventppVerif.Properties.C02
/-
  Property C19 — generation-counter wrap-around never loses or resurrects a callback.

  "Adding callbacks never makes an existing callback unreachable: even when the list's internal
  generation counter wraps around after 2^32 additions, every callback then in the list keeps
  being invoked exactly once by every later invocation, removed callbacks stay removed, and
  callbacks added afterwards are invoked by later invocations.  Only invocations already in
  progress at the moment of the wrap may additionally call callbacks added during them; the rule
  that newly added callbacks are skipped holds again for all following invocations."

  Model: `CL.nextCounter` is `getNextCounter` as written: `++currentCounter`; if the result is 0
  (mod `M`, the modulus of the counter type, a field of the object so that small moduli can be
  tested) walk `head->next…`, write `counter = 1` everywhere, set `currentCounter = 1`.  The ghost
  field `MCfg.wraps` counts how often that branch was taken.

  What is proved, with no hypothesis about `wraps` anywhere:
  * later invocations: `C19_inv`, `C19_after*` (after any history — with any number of wraps — a state
    with no invocation in progress is related (`Sim`) to the Spec state obtained by reading the objects
    through `head`/`next`; hence C02 applies until the next wrap), `C19_wrap_*` (the wrapping operation itself);
  * invocations in progress at a wrap: `C19_during*`, `C19_guard_stable`; `C19_during_once*` with a ghost
    record of what the invocation called, `C19_called_is_trace*` tying that record to the trace,
    `C19_trace_once` on the trace.
-/
namespace Evp

/-- **C19 (well-formedness, always).**  For every behaviour of the callbacks, every number of
    steps and every start world whose list objects are well formed: every list object is well
    formed afterwards — no matter how many counter wraps happened in between. -/
theorem C19_inv (beh : Beh) (n : Nat) {m : MCfg} (h : MInv m) : MInv (MCfg.runN beh n m).1 :=
  minv_runN beh n h

/-- **C19 (what `MInv` says).**  For every list `l` of a world satisfying `MInv`, with
    `L` = the nodes on the `head`/`next` chain: `L` has no duplicates, `head` starts it and `next`
    of its last node is null (`Seg … none`), `tail`/`previous` walk it backwards, a node is on the
    chain iff its counter is not `removedCounter` (= 0), the counter of every node on the chain is
    in `[1, currentCounter]`, `currentCounter < M`, all its nodes were allocated (`< nextId`), and
    no null pointer was ever dereferenced. -/
theorem C19_inv_meaning {m : MCfg} (h : MInv m) (l : Nat) :
    let cl := m.lists l
    let L := chainOf cl.heap (m.nextId + 1) cl.head
    L.Nodup ∧ Seg nextF cl.heap cl.head L none ∧ Seg prevF cl.heap cl.tail L.reverse none ∧
    (∀ n, n ∈ L ↔ (cl.heap n).counter ≠ 0) ∧
    (∀ n ∈ L, 1 ≤ (cl.heap n).counter ∧ (cl.heap n).counter ≤ cl.cur) ∧
    cl.cur < cl.M ∧ (∀ n ∈ L, n < m.nextId) ∧ cl.ub = false := by
  obtain ⟨SL, r⟩ := h l
  intro cl L
  have hL : L = SL.ids := r.chain
  rw [hL]
  have w := r.wf
  exact ⟨w.nodup, w.fwd, w.bwd, w.live, fun n hn => ⟨Nat.pos_of_ne_zero ((w.live n).mp hn), w.cnt n hn⟩,
    w.cur_lt, w.lt, w.ub⟩

/-- **C19 (after any history).**  Let `m` be any Model state whose list objects are well formed
    (`MInv`; by `C19_inv` every state reachable from the empty world, through any number of wraps)
    and in which no invocation is in progress (the stack is one program `p`).  Then `m` is related
    to the Spec state `absCfg m p` whose lists are the objects' `head`/`next` chains with the stored
    callbacks, same `nextId`, same trace, about to run `p`. -/
theorem C19_after {m : MCfg} (h : MInv m) {p : Prog} (hst : m.stack = [.prog p]) :
    Sim m (absCfg m p) ∧ (absCfg m p).stack = [.prog p] ∧ (absCfg m p).nextId = m.nextId ∧
    (absCfg m p).trace = m.trace ∧
    ∀ l, ((absCfg m p).lists l).ids = chainOf (m.lists l).heap (m.nextId + 1) (m.lists l).head ∧
      ∀ e ∈ (absCfg m p).lists l, ((m.lists l).heap e.id).cb = e.cb := by
  have hs := sim_abs h hst
  refine ⟨hs, rfl, rfl, rfl, fun l => ⟨?_, (hs.rep l).cbs⟩⟩
  rw [absCfg_lists]
  simp [absList, SList.ids, Function.comp_def]

/-- **C19 (everything after behaves as the Spec says).**  From such a state, for every behaviour
    and every number of steps up to (not including) the *next* wrap, Model and Spec run in
    lock-step: same calls (list, handle, callback, argument), same results, same halting.  In
    particular (C01, C02) every invocation started from here calls exactly the callbacks in the
    list at its start that are still in the list when reached, each once, in list order, and none
    added during it.  After the next wrap `C19_after` applies again. -/
theorem C19_after_run (beh : Beh) (n : Nat) {m : MCfg} (h : MInv m) {p : Prog} (hst : m.stack = [.prog p])
    (nowrap : (MCfg.runN beh n m).1.wraps = m.wraps) :
    Sim (MCfg.runN beh n m).1 (SCfg.runN beh n (absCfg m p)).1 ∧
    (MCfg.runN beh n m).1.trace = (SCfg.runN beh n (absCfg m p)).1.trace ∧
    (MCfg.runN beh n m).2 = (SCfg.runN beh n (absCfg m p)).2 :=
  C02_simulation beh n m _ (sim_abs h hst) nowrap

/-- **C19 (reachable form).**  Start anywhere well formed (e.g. the empty world), run `k` steps of
    any behaviour `beh0` with any number of wraps, arrive in a state with no invocation in progress,
    start a new program `p` there: what follows (any behaviour, `n` steps without a further wrap)
    is what the Spec does from the content read off the pointers. -/
theorem C19_after_history (beh0 beh : Beh) (k n : Nat) {m0 : MCfg} (h0 : MInv m0) (p : Prog) :
    let m := { (MCfg.runN beh0 k m0).1 with stack := [.prog p] }
    (MCfg.runN beh n m).1.wraps = m.wraps →
    (MCfg.runN beh n m).1.trace = (SCfg.runN beh n (absCfg m p)).1.trace ∧
    (MCfg.runN beh n m).2 = (SCfg.runN beh n (absCfg m p)).2 := by
  intro m nowrap
  have hm : MInv m := C19_inv beh0 k h0
  exact (C19_after_run beh n hm rfl nowrap).2

/-- **C19 (the wrap keeps the content — append).**  If `l` represents `SL` and the next
    `getNextCounter` wraps, `append` still yields an object representing `SL.append`: same chain
    plus the new node at the back, same callbacks, nothing lost, nothing resurrected; afterwards
    `currentCounter = 1` and every node on the chain (old or new) has counter 1. -/
theorem C19_wrap_append {l : CL} {SL : SList} {b : Nat} (r : Rep l SL b) (hw : l.willWrap = true) (cb : Cb) :
    Rep (l.append (b + 1) b cb) (SL.append b cb) (b + 1) ∧
    (l.append (b + 1) b cb).cur = 1 ∧
    ∀ n ∈ (SL.append b cb).ids, ((l.append (b + 1) b cb).heap n).counter = 1 :=
  ⟨rep_append r cb, (added_append r cb).wrap r hw⟩

/-- the same for `prepend` -/
theorem C19_wrap_prepend {l : CL} {SL : SList} {b : Nat} (r : Rep l SL b) (hw : l.willWrap = true) (cb : Cb) :
    Rep (l.prepend (b + 1) b cb) (SL.prepend b cb) (b + 1) ∧
    (l.prepend (b + 1) b cb).cur = 1 ∧
    ∀ n ∈ (SL.prepend b cb).ids, ((l.prepend (b + 1) b cb).heap n).counter = 1 :=
  ⟨rep_prepend r cb, (added_prepend r cb).wrap r hw⟩

/-- the same for `insert` (before a handle that is or is not in the list) -/
theorem C19_wrap_insert {l : CL} {SL : SList} {b : Nat} (r : Rep l SL b) (hw : l.willWrap = true) (cb : Cb)
    (before : Hd) :
    Rep (l.insert (b + 1) b cb before) (SL.insert b cb before) (b + 1) ∧
    (l.insert (b + 1) b cb before).cur = 1 ∧
    ∀ n ∈ (SL.insert b cb before).ids, ((l.insert (b + 1) b cb before).heap n).counter = 1 :=
  ⟨rep_insert r cb before, (added_insert r cb before).wrap r hw⟩

/-- **C19 (in progress, invariant).**  `MInvD m` (CL/PropAuxC19.lean): every list object of `m`
    represents a list, and for every running traversal `iter l n cap …` on the stack the structural
    frame invariant holds (see `C19_during_walk`).  It holds in every world without running
    traversal (`C19_during_init`) and is preserved by every step of every behaviour — appends that
    wrap the counter of the list being traversed included; there is no hypothesis on `wraps`. -/
theorem C19_during (beh : Beh) (n : Nat) {m : MCfg} (h : MInvD m) : MInvD (MCfg.runN beh n m).1 :=
  MCfg.runN_induct (minvD_step beh) n h

theorem C19_during_init {m : MCfg} (h : MInv m) {p : Prog} (hst : m.stack = [.prog p]) : MInvD m :=
  minvD_iff.mpr ⟨h, fun hf => by rw [hst] at hf; simp at hf⟩

/-- **C19 (in progress, what the invariant gives).**  For every running traversal of list `l`
    standing on node `n` (any nesting depth, any captured generation, before or after any number
    of wraps): following `next` from `n` visits, within the fuel, a duplicate-free sequence
    `R ++ S` and then null, where `R` are removed nodes (counter 0: the guard never calls them) and
    `S` is a suffix of the current live chain `SL.ids`.  So the traversal terminates without
    touching an unallocated node, never calls a removed callback, and can only call callbacks
    that are in the list, in list order, each at most once more.  Moreover its skip loop (for
    whatever captured generation `cap'`) finds exactly the *first* live node ahead whose counter is
    at most `cap'`: no callback ahead that passes the guard is skipped. -/
theorem C19_during_walk {m : MCfg} (h : MInvD m) {l n cap arg : Nat} {ho : Bool}
    (hf : MFrame.iter l n cap arg ho ∈ m.stack) :
    ∃ (SL : SList) (R S : List Nat), Rep (m.lists l) SL m.nextId ∧ S <:+ SL.ids ∧
      (∀ x ∈ R, ((m.lists l).heap x).counter = 0) ∧
      (if R = [] then S.head? = some n else R.head? = some n) ∧
      chainOf (m.lists l).heap (m.nextId + 1) (some n) = R ++ S ∧ (R ++ S).Nodup ∧
      ∀ cap', seek (m.lists l).heap cap' (m.nextId + 1) ((m.lists l).heap n).next =
        ((if R = [] then S.tail else S).filter
          (fun a => decide (((m.lists l).heap a).counter ≤ cap'))).head? := by
  obtain ⟨hm, H⟩ := minvD_iff.mp h
  obtain ⟨Y, a⟩ := H hf
  obtain ⟨R, S, h1, h2, h3, h4, h5, rfl⟩ := a.walk (hm.rep l)
  exact ⟨_, R, S, hm.rep l, h1, h2, h3, h4, h5, a.seek_eq (hm.rep l)⟩

/-- **C19 (in progress, the next call).**  Whatever node the skip loop of such a traversal finds
    next is a callback that is in the list now (never a removed or resurrected one). -/
theorem C19_during_next {m : MCfg} (h : MInvD m) {l n cap arg : Nat} {ho : Bool}
    (_hf : MFrame.iter l n cap arg ho ∈ m.stack) {n' : Nat}
    (hs : seek (m.lists l).heap cap (m.nextId + 1) ((m.lists l).heap n).next = some n') :
    n' ∈ chainOf (m.lists l).heap (m.nextId + 1) (m.lists l).head ∧ ((m.lists l).heap n').counter ≠ 0 := by
  obtain ⟨SL, r⟩ := (minvD_iff.mp h).1 l
  have hg := seek_guard hs
  have hc : ((m.lists l).heap n').counter ≠ 0 := by
    intro h0; simp [guard, h0] at hg
  exact ⟨by rw [r.chain]; exact (r.wf.live n').mpr hc, hc⟩

/-- **C19 (in progress, generations never grow).**  `append` / `prepend` / `insert` (wrapping or
    not) leave the counter of every callback already in the list unchanged or set it to 1, and
    `remove` leaves the others' unchanged: a callback that passes the guard of an invocation in
    progress (captured generation `cap ≥ 1`, which holds whenever the list was non-empty at its
    start) keeps passing it until it is removed — the wrap never hides a callback from an
    invocation in progress. -/
theorem C19_guard_stable {l : CL} {SL : SList} {b : Nat} (r : Rep l SL b) (cb : Cb) (before h : Hd) {n : Nat}
    (hn : n ∈ SL.ids) {cap : Nat} (hcap : 1 ≤ cap) (hg : guard (l.heap n).counter cap = true) :
    guard ((l.append (b + 1) b cb).heap n).counter cap = true ∧
    guard ((l.prepend (b + 1) b cb).heap n).counter cap = true ∧
    guard ((l.insert (b + 1) b cb before).heap n).counter cap = true ∧
    (n ≠ h → guard ((l.remove h).1.heap n).counter cap = true) :=
  ⟨guard_stable ((added_append r cb).counter_old r hn) hcap hg,
   guard_stable ((added_prepend r cb).counter_old r hn) hcap hg,
   guard_stable ((added_insert r cb before).counter_old r hn) hcap hg,
   fun hne => by rw [remove_counter l h hne]; exact hg⟩

/-! ### invocations in progress at a wrap: every snapshot survivor is still called exactly once

  The Model machine is run with a *ghost stack* alongside (`grunN`, `gstep`, CL/FrameSub.lean): one
  record `Ghost` per running invocation, holding `born` — the world's id bound when the invocation
  started, so that the callbacks added later are exactly those with a handle `≥ born` —, `snap`,
  the snapshot (the list content at the start), `rest`, the part of the snapshot not reached yet,
  and `called`, the handles the invocation has called so far, in call order (`gstep` appends the
  handle whenever `MCfg.step` makes the invocation call a callback).  The ghost stack is computed
  from the Model configuration only and does not influence the run (`C19_during_once_erase`).

  `GInv m gs`: every list object of `m` is well formed and every running traversal
  `iter l n cap …` satisfies `FrameD` with its ghost record `g` (CL/FrameSub.lean): following `next`
  from `n` walks removed nodes `R` and then a suffix `S` of the live chain (as in
  `C19_during_walk`), `1 ≤ cap`, and among the live nodes ahead
    * those with a handle `< g.born` are exactly the entries of `g.rest` that are still in the list,
      in the same order, and
    * each of them passes the guard (`counter ≤ cap`).
  Counters of old nodes only ever drop to 1 (the wrap), so this survives every operation.
  In addition the record is consistent (`GhostOK`): `snap = done ++ rest`, the calls of handles
  `< born` are in call order a sublist of `done`, every entry of `done` was called or is no
  longer in the list. -/

/-- **C19 (in progress, ghost invariant).**  `GInv` holds in every world without a running
    invocation … -/
theorem C19_during_once_init {m : MCfg} (h : MInv m) {p : Prog} (hst : m.stack = [.prog p]) : GInv m [] :=
  ginv_init h hst

/-- … and is preserved by every step of every behaviour: appends / prepends / inserts that wrap the
    generation counter of a list that is being traversed (at any nesting depth) included.  There is
    no hypothesis on `wraps`. -/
theorem C19_during_once_inv (beh : Beh) (n : Nat) {m : MCfg} {gs : List Ghost} (h : GInv m gs) :
    GInv (grunN beh n m gs).1 (grunN beh n m gs).2 :=
  ginv_runN beh n h

/-- `C19_during_once_inv` for a single step: the ghost stack that goes with the next state is `gstep m gs`. -/
theorem C19_during_once_step (beh : Beh) {m m' : MCfg} {gs : List Ghost} (h : GInv m gs)
    (st : MCfg.step beh m = some m') : GInv m' (gstep m gs) :=
  ginv_step beh h st

/-- the ghost stack is an annotation only: the Model component of the instrumented run is the run -/
theorem C19_during_once_erase (beh : Beh) (n : Nat) (m : MCfg) (gs : List Ghost) :
    (grunN beh n m gs).1 = (MCfg.runN beh n m).1 :=
  grunN_fst beh n m gs

/-- **C19 (in progress, start of an invocation).**  When `invoke` / `enum` of list `l` calls a
    callback (`gstep` then is `gstart m l`): the list content is `e :: es`, the callback called is
    `e`, and the ghost record pushed for the new invocation is `born = nextId`, `snap = e :: es`,
    `rest = es`, `called = [e.id]`.  All handles of the snapshot are distinct and `< born`. -/
theorem C19_during_once_start {m : MCfg} {gs : List Ghost} (h : GInv m gs) {l n' : Nat}
    (hs : seek (m.lists l).heap (m.lists l).cur (m.nextId + 1) (m.lists l).head = some n') :
    ∃ e es, absL m l = e :: es ∧ e.id = n' ∧ ((m.lists l).heap n').cb = e.cb ∧
      gstart m l gs = ⟨m.nextId, e :: es, es, [n']⟩ :: gs ∧
      (absL m l).ids.Nodup ∧ ∀ x ∈ absL m l, x.id < m.nextId := by
  have r := h.reps l
  obtain ⟨e, es, hSL, he, hcb, ha, _⟩ := framed_start r hs
  refine ⟨e, es, hSL, he, hcb, ?_, r.wf.nodup, fun x hx => r.wf.lt _ (SList.mem_ids_of_mem hx)⟩
  unfold gstart MCfg.fuel
  rw [hs]
  show (⟨m.nextId, absL m l, advance n' (absL m l), [n']⟩ : Ghost) :: gs = _
  rw [ha, hSL]

/-- **C19 (in progress, every snapshot survivor is called exactly once, in order) —
    `C19_during_once`.**  Let the callback of a running invocation of list `l` return (the stack is
    `ret v :: iter l n cap … :: below`), in a state satisfying `GInv` — any number of counter wraps
    may have happened since the invocation started.  Its ghost record is the top record `g`; every
    entry of the remaining snapshot `g.rest` has a handle `< g.born`.  Let `SL` be the current
    content of the list.  For what the skip loop of `doForEachIf` finds next:

    * nothing (the invocation ends): no entry of the remaining snapshot is in the list — nothing
      that should have been called was skipped; the record is popped;
    * a node `n'`: it is in the list now, and
      - if `n' < g.born` (the callback existed when the invocation started) then it is *the* next
        call of the Spec invocation: the first entry `e` of the remaining snapshot that is still in
        the list (`g.rest.dropWhile (not present) = e :: es`), with the stored callback, and the
        remaining snapshot becomes `es`;
      - otherwise `n'` was added during the invocation (the permitted extra call, possible only
        after a wrap) and the remaining snapshot is unchanged.

    Hence, along the run, the calls of the invocation with a handle `< born` are exactly the
    snapshot entries that are still in the list when reached, in snapshot order, each once (an
    entry leaves `rest` when it is called or found removed, the snapshot's handles are distinct
    (`C19_during_once_start`), and every other call has a handle `≥ born`). -/
theorem C19_during_once {m : MCfg} {gs0 : List Ghost} (h : GInv m gs0) {v : Bool} {l n cap arg : Nat}
    {ho : Bool} {below : List MFrame}
    (hst : m.stack = .prog (.ret v) :: .iter l n cap arg ho :: below) :
    ∃ g gs, gs0 = g :: gs ∧ (∀ e ∈ g.rest, e.id < g.born) ∧ g.born ≤ m.nextId ∧
      match seek (m.lists l).heap cap (m.nextId + 1) ((m.lists l).heap n).next with
      | none => (∀ e ∈ g.rest, (absL m l).present e.id = false) ∧ gnext m l n cap gs0 = gs
      | some n' => (absL m l).present n' = true ∧
          (n' < g.born → ∃ e es, g.rest.dropWhile (fun e => !(absL m l).present e.id) = e :: es ∧
            e.id = n' ∧ ((m.lists l).heap n').cb = e.cb ∧
            gnext m l n cap gs0 = { g with rest := es, called := g.called ++ [n'] } :: gs) ∧
          (g.born ≤ n' → gnext m l n cap gs0 = { g with called := g.called ++ [n'] } :: gs) := by
  have r := h.reps l
  have hs := h.2
  rw [hst] at hs
  obtain ⟨g, gs, rfl, ok, _, _⟩ := hs.prog_inv.iter_inv
  refine ⟨g, gs, rfl, ok.rest_lt, ok.born_le, ?_⟩
  cases hsk : seek (m.lists l).heap cap (m.nextId + 1) ((m.lists l).heap n).next with
  | none =>
    refine ⟨framed_done r ok hsk, ?_⟩
    unfold gnext MCfg.fuel
    rw [hsk]; rfl
  | some n' =>
    obtain ⟨hmem, _, h1⟩ := framed_step r ok hsk
    have hg : gnext m l n cap (g :: gs) = g.next n' :: gs := by
      unfold gnext MCfg.fuel
      rw [hsk]
    rw [hg]
    unfold Ghost.next
    refine ⟨SList.present_iff.mpr hmem, fun hlt => ?_, fun hge => by rw [if_neg (Nat.not_lt.mpr hge)]⟩
    obtain ⟨e, es, d1, d2, d4, d3⟩ := h1 hlt
    exact ⟨e, es, d1, d2, d3, by rw [if_pos hlt, d4]⟩

/-- **C19 (in progress, the invocation as a whole) — closed form of `C19_during_once`.**  When a
    running invocation of list `l` ends because its skip loop finds nothing more to call — in a
    state satisfying `GInv`, after any number of counter wraps during the invocation — then, with
    `g` its ghost record (`g.snap` the list content when it started, whose handles are distinct and
    `< g.born`; `g.called` the handles it called, in call order):

    * the calls of callbacks that existed when it started (`handle < g.born`) are, in call order, a
      sublist of the snapshot: snapshot order, no callback twice;
    * every callback of the snapshot that is in the list now has been called.

    Every other call is a callback added during the invocation (`handle ≥ g.born`). -/
theorem C19_during_once_end {m : MCfg} {gs0 : List Ghost} (h : GInv m gs0) {v : Bool} {l n cap arg : Nat}
    {ho : Bool} {below : List MFrame}
    (hst : m.stack = .prog (.ret v) :: .iter l n cap arg ho :: below)
    (hend : seek (m.lists l).heap cap (m.nextId + 1) ((m.lists l).heap n).next = none) :
    ∃ g gs, gs0 = g :: gs ∧ (SList.ids g.snap).Nodup ∧ (∀ e ∈ g.snap, e.id < g.born) ∧
      List.Sublist (g.called.filter (fun n => decide (n < g.born))) (SList.ids g.snap) ∧
      (∀ e ∈ g.snap, (absL m l).present e.id = true → e.id ∈ g.called) := by
  have r := h.reps l
  have hs := h.2
  rw [hst] at hs
  obtain ⟨g, gs, rfl, ok, ⟨done, h1, h2, h3, h4, h5⟩, _⟩ := hs.prog_inv.iter_inv
  have hdone := framed_done r ok hend
  refine ⟨g, gs, rfl, h5, h4, ?_, fun e he hp => ?_⟩
  · have : SList.ids g.snap = SList.ids done ++ SList.ids g.rest := by rw [h1]; simp [SList.ids]
    rw [this]
    exact List.Sublist.trans h2 (List.sublist_append_left _ _)
  · rw [h1] at he
    rcases List.mem_append.mp he with he | he
    · rcases h3 e he with hc | hn
      · exact hc
      · rw [hn] at hp; cases hp
    · rw [hdone e he] at hp; cases hp

/-- what `MCfg.step` does when the skip loop finds `n'` (definition of `seekCall`, for reference next
    to `gstep`): it emits the event `.call ⟨l, n', stored callback, arg, ho⟩` and the invocation's
    frame moves to `n'` — these are exactly the steps in which `gstep` appends `n'` to `called`. -/
theorem C19_during_once_event (beh : Beh) (m : MCfg) {l cap arg n' : Nat} {start : Option Nat} {ho : Bool}
    {below : List MFrame} (hs : seek (m.lists l).heap cap (m.nextId + 1) start = some n') :
    (MCfg.seekCall beh m l start cap arg ho below).trace =
      .call ⟨l, n', ((m.lists l).heap n').cb, arg, ho⟩ :: m.trace ∧
    ∃ p, (MCfg.seekCall beh m l start cap arg ho below).stack = .prog p :: .iter l n' cap arg ho :: below := by
  unfold MCfg.seekCall MCfg.fuel
  rw [hs]
  exact ⟨rfl, _, rfl⟩

/-- **C19 (in progress, all nesting depths).**  Under `GInv` every running traversal on the stack —
    not only the top one — has a ghost record with which it satisfies `FrameD`, and the record is
    consistent (`GhostOK`: `snap = done ++ rest`, the old calls are a sublist of `done`, every
    entry of `done` was called or is no longer in the list). -/
theorem C19_during_once_frames {m : MCfg} {gs : List Ghost} (h : GInv m gs) {l n cap arg : Nat} {ho : Bool}
    (hf : MFrame.iter l n cap arg ho ∈ m.stack) :
    ∃ g ∈ gs, FrameD (m.lists l) (absL m l) m.nextId n cap g.born g.rest ∧ GhostOK (absL m l) g := by
  obtain ⟨pre, below, hst⟩ := List.append_of_mem hf
  have hs := h.2
  rw [hst] at hs
  obtain ⟨g, hg, hfd⟩ := hs.frame
  exact ⟨g, List.mem_of_getElem? hg, hfd⟩

/-- **C19 (in progress, the sublist form).**  For every running traversal: the entries of its
    remaining snapshot that are still in the list are a sublist, in order, of the live nodes ahead
    that pass its guard — of what the traversal will still call (`FrameSub`, CL/FrameSub.lean;
    before any wrap the two lists are equal, `FrameOK.toSub`).  Nothing of the snapshot is ever
    hidden from the traversal, by a wrap or otherwise. -/
theorem C19_during_once_sublist {m : MCfg} {gs : List Ghost} (h : GInv m gs) {l n cap arg : Nat} {ho : Bool}
    (hf : MFrame.iter l n cap arg ho ∈ m.stack) :
    ∃ g ∈ gs, ∃ R S : List Nat, S <:+ (absL m l).ids ∧
      (∀ x ∈ R, ((m.lists l).heap x).counter = 0) ∧
      Seg nextF (m.lists l).heap (some n) R S.head? ∧
      List.Sublist ((g.rest.filter (fun e => (absL m l).present e.id)).map (·.id))
        ((if R = [] then S.tail else S).filter
          (fun a => decide (((m.lists l).heap a).counter ≤ cap))) := by
  obtain ⟨g, hg, hfd, _⟩ := C19_during_once_frames h hf
  obtain ⟨R, S, h1, h2, _, h4, h5, _, _⟩ := hfd.toSub
  exact ⟨g, hg, R, S, h1, fun x hx => (h2 x hx).1, h4, h5⟩

/-- **C19 (in progress, the operations).**  On one list object: `append` / `prepend` / `insert`
    (whether or not `getNextCounter` takes its wrap branch) and `remove` keep the frame invariant
    `FrameD` of every running traversal with the *same* remaining snapshot. -/
theorem C19_during_once_ops {l : CL} {SL : SList} {b m cap b0 : Nat} {rest : List Entry} (r : Rep l SL b)
    (f : FrameD l SL b m cap b0 rest) (cb : Cb) (before h : Hd) :
    FrameD (l.append (b + 1) b cb) (SL.append b cb) (b + 1) m cap b0 rest ∧
    FrameD (l.prepend (b + 1) b cb) (SL.prepend b cb) (b + 1) m cap b0 rest ∧
    FrameD (l.insert (b + 1) b cb before) (SL.insert b cb before) (b + 1) m cap b0 rest ∧
    FrameD (l.remove h).1 (SL.remove h).1 b m cap b0 rest :=
  ⟨framed_added r (added_append r cb) f, framed_added r (added_prepend r cb) f,
   framed_added r (added_insert r cb before) f, framed_remove r f h⟩

/-- **C19 (in progress, the skip loop under the sublist invariant).**  Under `FrameSub` alone the
    skip loop never skips a snapshot entry that is still in the list: it ends only if there is
    none; otherwise it finds the first such entry (and the invariant holds again with the snapshot
    advanced past it) or a node that is not in the remaining snapshot (an extra call; the
    invariant holds again with the same snapshot). -/
theorem C19_during_once_seek {l : CL} {SL : SList} {b m cap : Nat} {rest : List Entry} (r : Rep l SL b)
    (f : FrameSub l SL b m cap rest) :
    match seek l.heap cap (b + 1) (l.heap m).next with
    | none => ∀ e ∈ rest, SL.present e.id = false
    | some n' => n' ∈ SL.ids ∧
        ((∃ e es, rest.dropWhile (fun e => !SL.present e.id) = e :: es ∧ e.id = n' ∧
            (l.heap n').cb = e.cb ∧ FrameSub l SL b n' cap es) ∨
         ((∀ e ∈ rest, e.id ≠ n') ∧ FrameSub l SL b n' cap rest)) :=
  framesub_seek r f

/-! ### `called` is the sequence of `.call` events of the invocation

  Nested invocations (a callback that invokes the same or another list) write into the same trace,
  and the trace alone does not say which invocation emitted an event.  So the run is instrumented
  once more (`trunN`, CL/GhostTrace.lean), again without influencing it (`C19_called_is_trace_erase`):

  * `ann` — one number per trace event (newest first, like the trace), the *emitter* of the event:
    `astep` annotates every event appended by the step out of `m` with `emitDepth m`, which for a
    step of a traversal (`ret v :: iter … :: below`, or `invoke` / `enum` pushing `iter … ::
    wait k :: rest`) is the number of frames under that traversal's `.iter` frame.  The frames under
    a running traversal never change and every traversal nested in it sits strictly higher, so
    among the events emitted while a traversal runs this number singles out its own.
  * `ks` — one *mark* per running traversal: the length of the trace when it started.

  `since k (trace.zip ann)` are the annotated events appended after the trace had length `k`, and
  `emittedBy d seg` the handles of the `.call` events of `seg` with emitter `d`, oldest first.

  `TInv m gs ks ann`: `ann.length = m.trace.length`, and for every running traversal
  `iter l n cap arg ho` with `d` frames under it, ghost record `g` and mark `k`:
  `k ≤ m.trace.length`, `g.called = emittedBy d (since k (m.trace.zip ann))`, and every `.call` event
  after the mark with emitter `d` is a call `⟨l, _, _, arg, ho⟩`. -/

/-- **C19 (`called` is the trace, start).**  `TInv` holds in every world without a running
    invocation (every event so far gets the immaterial annotation 0) … -/
theorem C19_called_is_trace_init {m : MCfg} {p : Prog} (hst : m.stack = [.prog p]) :
    TInv m [] [] (List.replicate m.trace.length 0) :=
  tinv_init hst

/-- … and every step of every behaviour keeps it: the step appends `.call ⟨l, n', …⟩` with the
    emitter of a traversal exactly when `gstep` appends `n'` to `called` of that traversal's record;
    the events of nested and of enclosing traversals carry a different emitter; a traversal that
    starts gets the current trace length as its mark. -/
theorem C19_called_is_trace_step (beh : Beh) {m m' : MCfg} {gs : List Ghost} {ks ann : List Nat}
    (h : TInv m gs ks ann) (st : MCfg.step beh m = some m') :
    TInv m' (gstep m gs) (kstep m ks) (astep m m' ann) :=
  tinv_step beh h st

/-- hence along the instrumented run `trunN`, which carries ghost stack, marks and annotation beside the state -/
theorem C19_called_is_trace_inv (beh : Beh) (n : Nat) {m : MCfg} {gs : List Ghost} {ks ann : List Nat}
    (h : TInv m gs ks ann) :
    TInv (trunN beh n m gs ks ann).1 (trunN beh n m gs ks ann).2.1 (trunN beh n m gs ks ann).2.2.1
      (trunN beh n m gs ks ann).2.2.2 :=
  tinv_runN beh n h

/-- **C19 (`called` is the trace, along every run).**  From every start world with well-formed
    list objects and no invocation in progress, for every behaviour and every number of steps:
    the instrumented run satisfies `GInv` (the hypothesis of `C19_during_once`, `_end`) and `TInv`
    (the tie of `called` to the trace). -/
theorem C19_called_is_trace_runN (beh : Beh) (n : Nat) {m : MCfg} (h : MInv m) {p : Prog}
    (hst : m.stack = [.prog p]) :
    let r := trunN beh n m [] [] (List.replicate m.trace.length 0)
    GInv r.1 r.2.1 ∧ TInv r.1 r.2.1 r.2.2.1 r.2.2.2 :=
  ⟨ginv_trunN beh n _ _ (ginv_init h hst), tinv_runN beh n (tinv_init hst)⟩

/-- marks and annotation are bookkeeping only: the Model state and the ghost stack of the
    instrumented run are those of `grunN` (hence of `MCfg.runN`, `C19_during_once_erase`), and the
    annotation does not depend on the ghost records (`arunN` is defined without them). -/
theorem C19_called_is_trace_erase (beh : Beh) (n : Nat) (m : MCfg) (gs : List Ghost) (ks ann : List Nat) :
    ((trunN beh n m gs ks ann).1, (trunN beh n m gs ks ann).2.1) = grunN beh n m gs ∧
    (trunN beh n m gs ks ann).1 = (MCfg.runN beh n m).1 ∧
    (trunN beh n m gs ks ann).2.2.2 = arunN beh n m ann :=
  ⟨trunN_grunN beh n m gs ks ann, trunN_fst beh n m gs ks ann, trunN_ann beh n m gs ks ann⟩

/-- **C19 (`called` is the trace) — `C19_called_is_trace`.**  In a state satisfying `GInv` and
    `TInv` (every state of every run, `C19_called_is_trace_runN`), for *every* running traversal
    `iter l n cap arg ho` — `pre` are the frames above it, `below` those under it, so any nesting
    depth —: its ghost record `g` and its mark `k` are the entries number `iters pre` (the number
    of traversals above it) of the ghost stack and of the marks, and

    * `g` is the record for which the frame invariant `FrameD` and `GhostOK` hold (the record that
      `C19_during_once`, `C19_during_once_end` speak about when the traversal is the top one);
    * `g.called` is the list of handles, oldest first, of the `.call` events appended to the trace
      since the traversal started (`since k`) whose emitter is this traversal (`below.length`);
    * every such event is a call of list `l` with this traversal's argument and flag. -/
theorem C19_called_is_trace {m : MCfg} {gs : List Ghost} {ks ann : List Nat} (hg : GInv m gs)
    (ht : TInv m gs ks ann) {pre below : List MFrame} {l n cap arg : Nat} {ho : Bool}
    (hst : m.stack = pre ++ .iter l n cap arg ho :: below) :
    ann.length = m.trace.length ∧
    ∃ g k, gs[iters pre]? = some g ∧ ks[iters pre]? = some k ∧ k ≤ m.trace.length ∧
      FrameD (m.lists l) (absL m l) m.nextId n cap g.born g.rest ∧ GhostOK (absL m l) g ∧
      g.called = emittedBy below.length (since k (m.trace.zip ann)) ∧
      ∀ c, (Ev.call c, below.length) ∈ since k (m.trace.zip ann) → c.list = l ∧ c.arg = arg ∧ c.enum = ho := by
  have h1 := hg.2
  have h2 := ht.2
  rw [hst] at h1 h2
  obtain ⟨g, k, e1, e2, e3, e4, e5⟩ := h2.frame
  obtain ⟨g', e1', f1, f2⟩ := h1.frame
  rw [e1] at e1'
  cases e1'
  exact ⟨ht.1, g, k, e1, e2, e3, f1, f2, e4, e5⟩

/-- **C19 (in progress, on the trace) — `C19_during_once_end` without ghost records.**
    Let `m1` be a state satisfying the two invariants (every reachable state, see `C19_trace_once`)
    whose program is about to `invoke` (`ho = false`) or `enum` (`ho = true`) list `l`, above the
    frames `rest`.  Run `j + 1` steps of any behaviour, and suppose that after each of these steps
    the stack is at least `rest.length + 3` high — i.e. the traversal pushed by this command
    (`… :: iter l … :: wait kk :: rest`) has not ended; any number of counter wraps may happen.
    Suppose that in the state `m2` reached the callback of a traversal with `rest.length + 1` frames
    under it returns and its skip loop finds nothing more to call.  Then that traversal is the one
    started at `m1` (same list, argument, flag, frames under it), and with

      `calls` := the handles, oldest first, of the `.call` events that this traversal appended to
                 the trace: the events after position `m1.trace.length` whose emitter annotation
                 (`arunN`, computed from the Model run alone) is `rest.length + 1`,

    * the content of the list at the start, `absL m1 l`, has distinct handles, all `< m1.nextId`;
    * the calls of callbacks that existed at the start (`handle < m1.nextId`) are, in call order, a
      sublist of the handles of `absL m1 l`: list order, none twice;
    * every callback of `absL m1 l` that is in the list at the end was called.

    Nothing in the conclusion mentions a ghost record.  What remains ghost is the emitter
    annotation `arunN`: the trace itself does not record which of several nested invocations
    emitted a `.call` (see CL/GhostTrace.lean); `astep` / `emitDepth` define it from the stack of
    the Model configuration at each step. -/
theorem C19_trace_once_from (beh : Beh) {m1 : MCfg} {gs1 : List Ghost} {ks1 ann1 : List Nat}
    (hg : GInv m1 gs1) (ht : TInv m1 gs1 ks1 ann1) {l arg : Nat} {ho : Bool} {kk : Res → Prog}
    {rest : List MFrame}
    (hst1 : (ho = false ∧ m1.stack = .prog (.op (.invoke l arg) kk) :: rest) ∨
      (ho = true ∧ m1.stack = .prog (.op (.enum l arg) kk) :: rest))
    (j : Nat)
    (hp : ∀ t, 1 ≤ t → t ≤ j + 1 → rest.length + 3 ≤ (MCfg.runN beh t m1).1.stack.length)
    {v : Bool} {l' n cap arg' : Nat} {ho' : Bool} {below : List MFrame}
    (hst2 : (MCfg.runN beh (j + 1) m1).1.stack = .prog (.ret v) :: .iter l' n cap arg' ho' :: below)
    (hlen : below.length = rest.length + 1)
    (hend : seek ((MCfg.runN beh (j + 1) m1).1.lists l').heap cap ((MCfg.runN beh (j + 1) m1).1.nextId + 1)
      (((MCfg.runN beh (j + 1) m1).1.lists l').heap n).next = none) :
    let m2 := (MCfg.runN beh (j + 1) m1).1
    let calls := emittedBy (rest.length + 1) (since m1.trace.length (m2.trace.zip (arunN beh (j + 1) m1 ann1)))
    (l' = l ∧ arg' = arg ∧ ho' = ho ∧ below = .wait kk :: rest) ∧
    (SList.ids (absL m1 l)).Nodup ∧ (∀ e ∈ absL m1 l, e.id < m1.nextId) ∧
    List.Sublist (calls.filter (fun x => decide (x < m1.nextId))) (SList.ids (absL m1 l)) ∧
    (∀ e ∈ absL m1 l, (absL m2 l).present e.id = true → e.id ∈ calls) := by
  have hst : m1.stack = .prog (.op (bif ho then .enum l arg else .invoke l arg) kk) :: rest := by
    rcases hst1 with ⟨rfl, h⟩ | ⟨rfl, h⟩ <;> exact h
  -- the first step starts the traversal, the others keep it (`Follow`)
  obtain ⟨m', hm⟩ : ∃ m', MCfg.step beh m1 = some m' := ⟨_, MCfg.step_start hst⟩
  have e : ∀ t, MCfg.runN beh (t + 1) m1 = MCfg.runN beh t m' := fun t => by rw [MCfg.runN, hm]
  have hp' : ∀ t, t ≤ j → rest.length + 3 ≤ (MCfg.runN beh t m').1.stack.length := fun t ht' => by
    rw [← e]
    exact hp (t + 1) (by omega) (by omega)
  obtain ⟨gs2, ks2, hg2, ht2, hf⟩ := inst_runN beh j (ginv_step beh hg hm) (tinv_step beh ht hm)
  have hf := hf (follow_start beh gs1 ks1 hst hm (hp' 0 (Nat.zero_le _))) hp'
  simp only [e, arunN, hm] at hst2 hend ⊢
  -- in the end state the three descriptions of the top traversal speak of the same record and mark
  rw [hst2] at hf
  obtain ⟨hb, rfl, ha', hho', r, c, gs', ks', rfl, rfl⟩ := hf.top (by simpa using hlen)
  obtain ⟨g', gs'', hgg, d1, d2, d3, d4⟩ := C19_during_once_end hg2 hst2 hend
  cases hgg
  obtain ⟨-, g'', k'', hg'', hk'', -, -, -, hcalled, -⟩ :=
    C19_called_is_trace hg2 ht2 (pre := [.prog (.ret v)]) hst2
  cases hg''
  cases hk''
  rw [hlen] at hcalled
  obtain rfl : c = _ := hcalled
  exact ⟨⟨rfl, ha', hho', hb⟩, d1, d2, d3, d4⟩

/-- **C19 (in progress, on the trace, along runs from a start world) — `C19_trace_once`.**
    `C19_trace_once_from` for the states of a run from a start world `m0` with well-formed list
    objects and no invocation in progress: `m1` is the state after `i` steps, about to `invoke` /
    `enum` list `l`; the traversal so started is still running after each of the steps
    `i + 1, …, i + j + 1`; in the state `m2` after `i + j + 1` steps its skip loop finds nothing more.
    `calls` are the handles of the `.call` events this traversal appended to the trace (emitter
    annotation `arunN` of the whole run, positions after `m1.trace.length`).  Then: the calls of
    callbacks older than the traversal are a sublist of the list content at its start (list order,
    none twice), and every callback of that content still in the list at the end was called —
    whatever the callbacks did, however often the generation counter wrapped meanwhile.  No ghost
    record occurs in the statement; the only instrumentation left is the emitter annotation. -/
theorem C19_trace_once (beh : Beh) {m0 : MCfg} (h0 : MInv m0) {p : Prog} (hst0 : m0.stack = [.prog p])
    (i j : Nat) {l arg : Nat} {ho : Bool} {kk : Res → Prog} {rest : List MFrame}
    (hst1 : (ho = false ∧ (MCfg.runN beh i m0).1.stack = .prog (.op (.invoke l arg) kk) :: rest) ∨
      (ho = true ∧ (MCfg.runN beh i m0).1.stack = .prog (.op (.enum l arg) kk) :: rest))
    (hp : ∀ t, i < t → t ≤ i + (j + 1) → rest.length + 3 ≤ (MCfg.runN beh t m0).1.stack.length)
    {v : Bool} {l' n cap arg' : Nat} {ho' : Bool} {below : List MFrame}
    (hst2 : (MCfg.runN beh (i + (j + 1)) m0).1.stack = .prog (.ret v) :: .iter l' n cap arg' ho' :: below)
    (hlen : below.length = rest.length + 1)
    (hend : seek ((MCfg.runN beh (i + (j + 1)) m0).1.lists l').heap cap
      ((MCfg.runN beh (i + (j + 1)) m0).1.nextId + 1)
      (((MCfg.runN beh (i + (j + 1)) m0).1.lists l').heap n).next = none) :
    let m1 := (MCfg.runN beh i m0).1
    let m2 := (MCfg.runN beh (i + (j + 1)) m0).1
    let ann := arunN beh (i + (j + 1)) m0 (List.replicate m0.trace.length 0)
    let calls := emittedBy (rest.length + 1) (since m1.trace.length (m2.trace.zip ann))
    (l' = l ∧ arg' = arg ∧ ho' = ho ∧ below = .wait kk :: rest) ∧
    (SList.ids (absL m1 l)).Nodup ∧ (∀ e ∈ absL m1 l, e.id < m1.nextId) ∧
    List.Sublist (calls.filter (fun x => decide (x < m1.nextId))) (SList.ids (absL m1 l)) ∧
    (∀ e ∈ absL m1 l, (absL m2 l).present e.id = true → e.id ∈ calls) := by
  obtain ⟨gs1, ks1, hg, ht, -⟩ := inst_runN beh i (ginv_init h0 hst0) (tinv_init hst0)
  rw [MCfg.runN_add] at hst2 hend ⊢
  rw [arunN_add]
  refine C19_trace_once_from beh hg ht hst1 j (fun t h1 h2 => ?_) hst2 hlen hend
  rw [← MCfg.runN_add]
  exact hp (i + t) (by omega) (by omega)

def c19Beh : Beh := fun _ _ => .ret true

/-- a world whose list 0 has a 2-bit generation counter -/
def c19Init (p : Prog) : MCfg := { lists := upd {} 0 { M := 4 }, stack := [.prog p] }

theorem c19Init_inv (p : Prog) : MInv (c19Init p) := by
  intro l
  show ∃ SL, Rep ((upd ({} : Store CL) 0 { M := 4 }) l) SL 0
  rw [upd_get]
  split
  · exact ⟨[], Rep.init 0 (by decide) (by decide)⟩
  · have : (({} : Store CL) l) = ({} : CL) := Store.empty_get l
    rw [this]
    exact ⟨[], Rep.empty 0⟩

/-- five appends (the fourth one wraps), an invocation, a remove through an old handle (twice),
    another invocation -/
def c19Prog : Prog :=
  .op (.append 0 10) fun _ => .op (.append 0 11) fun _ => .op (.append 0 12) fun _ =>
  .op (.append 0 13) fun _ => .op (.append 0 14) fun _ =>
  .op (.invoke 0 7) fun _ => .op (.remove 0 1) fun _ => .op (.remove 0 1) fun _ =>
  .op (.invoke 0 8) fun _ => .ret true

/-- the counter wrapped once (during the fourth append); the invocation after the wrap calls all
    five callbacks in order; `remove` of the old handle 1 works exactly once; the next invocation
    calls the remaining four. -/
example :
    let m := (MCfg.runN c19Beh 40 (c19Init c19Prog)).1
    (MCfg.runN c19Beh 3 (c19Init c19Prog)).1.wraps = 0 ∧
    (MCfg.runN c19Beh 4 (c19Init c19Prog)).1.wraps = 1 ∧ m.wraps = 1 ∧
    m.trace.reverse =
      [.res (.handle 0), .res (.handle 1), .res (.handle 2), .res (.handle 3), .res (.handle 4),
       .call ⟨0, 0, 10, 7, false⟩, .call ⟨0, 1, 11, 7, false⟩, .call ⟨0, 2, 12, 7, false⟩,
       .call ⟨0, 3, 13, 7, false⟩, .call ⟨0, 4, 14, 7, false⟩, .res .unit,
       .res (.bool true), .res (.bool false),
       .call ⟨0, 0, 10, 8, false⟩, .call ⟨0, 2, 12, 8, false⟩, .call ⟨0, 3, 13, 8, false⟩,
       .call ⟨0, 4, 14, 8, false⟩, .res .unit] ∧
    absList (m.lists 0) 10 = [⟨0, 10⟩, ⟨2, 12⟩, ⟨3, 13⟩, ⟨4, 14⟩] := by
  decide +kernel

/-- the hypotheses of `C19_after` / `C19_after_run` hold in the state right after the wrap (five
    appends done, a new program started), and the Spec state read off the pointers is the list of
    all five callbacks. -/
example :
    let m : MCfg := { (MCfg.runN c19Beh 5 (c19Init c19Prog)).1 with stack := [.prog (.op (.invoke 0 7) fun _ => .ret true)] }
    m.wraps = 1 ∧ Sim m (absCfg m (.op (.invoke 0 7) fun _ => .ret true)) ∧
    (absCfg m (.op (.invoke 0 7) fun _ => .ret true)).lists 0 = [⟨0, 10⟩, ⟨1, 11⟩, ⟨2, 12⟩, ⟨3, 13⟩, ⟨4, 14⟩] := by
  intro m
  have hm : MInv m := C19_inv c19Beh 5 (c19Init_inv c19Prog)
  exact ⟨by decide +kernel, (C19_after hm rfl).1, by decide +kernel⟩

/-- the first callback, on its first call, appends three callbacks; the third append wraps -/
def c19Beh2 : Beh := fun c nth =>
  if c.cb = 10 ∧ nth = 0 then
    .op (.append 0 11) fun _ => .op (.append 0 12) fun _ => .op (.append 0 13) fun _ => .ret true
  else .ret true

def c19Prog2 : Prog :=
  .op (.append 0 10) fun _ => .op (.invoke 0 7) fun _ => .op (.invoke 0 8) fun _ => .ret true

/-- **the permitted extra calls.**  The invocation with argument 7 is in progress when the counter
    wraps (`wraps = 1`); it then calls the callbacks 11, 12, 13 that were added during it (the Spec
    invocation does not: its trace has no such calls).  The following invocation (argument 8)
    calls all four, each once, in order, as the Spec says. -/
example :
    let m := (MCfg.runN c19Beh2 40 (c19Init c19Prog2)).1
    let s := (SCfg.runN c19Beh2 40 { stack := [.prog c19Prog2] }).1
    m.wraps = 1 ∧
    m.trace.reverse =
      [.res (.handle 0),
       .call ⟨0, 0, 10, 7, false⟩, .res (.handle 1), .res (.handle 2), .res (.handle 3),
       .call ⟨0, 1, 11, 7, false⟩, .call ⟨0, 2, 12, 7, false⟩, .call ⟨0, 3, 13, 7, false⟩, .res .unit,
       .call ⟨0, 0, 10, 8, false⟩, .call ⟨0, 1, 11, 8, false⟩, .call ⟨0, 2, 12, 8, false⟩,
       .call ⟨0, 3, 13, 8, false⟩, .res .unit] ∧
    s.trace.reverse =
      [.res (.handle 0),
       .call ⟨0, 0, 10, 7, false⟩, .res (.handle 1), .res (.handle 2), .res (.handle 3), .res .unit,
       .call ⟨0, 0, 10, 8, false⟩, .call ⟨0, 1, 11, 8, false⟩, .call ⟨0, 2, 12, 8, false⟩,
       .call ⟨0, 3, 13, 8, false⟩, .res .unit] := by
  decide +kernel

/-- `MInvD` holds in that run while the invocation is in progress *after* the wrap (5 steps:
    append, invoke, three appends — the third wraps): the hypotheses of `C19_during_walk` are
    satisfiable in a state with `wraps = 1` and a traversal frame on the stack. -/
example :
    let m := (MCfg.runN c19Beh2 5 (c19Init c19Prog2)).1
    MInvD m ∧ m.wraps = 1 ∧ m.stack.length = 3 := by
  intro m
  exact ⟨C19_during c19Beh2 5 (C19_during_init (c19Init_inv c19Prog2) rfl), by decide +kernel, by decide +kernel⟩

/-- the first callback, on its first call, appends three callbacks — the first of these appends
    wraps the counter — and removes the callback with handle 2 -/
def c19Beh3 : Beh := fun c nth =>
  if c.cb = 10 ∧ nth = 0 then
    .op (.append 0 11) fun _ => .op (.append 0 13) fun _ => .op (.append 0 14) fun _ =>
    .op (.remove 0 2) fun _ => .ret true
  else .ret true

def c19Prog3 : Prog :=
  .op (.append 0 10) fun _ => .op (.append 0 12) fun _ => .op (.append 0 15) fun _ =>
  .op (.invoke 0 7) fun _ => .ret true

/-- **a wrap during an invocation, with the ghost stack.**  The invocation starts with snapshot
    `[0:10, 1:12, 2:15]` (`born = 3`) and calls handle 0; that callback wraps the counter
    (`wraps = 1` after 9 steps), adds handles 3, 4, 5 and removes handle 2.  After the wrap the
    invocation still calls the snapshot survivor (handle 1), skips the removed handle 2, and then
    makes the permitted extra calls 3, 4, 5.  `GInv` — the hypothesis of `C19_during_once`,
    `C19_during_once_end` — holds in these states. -/
example :
    let snap : List Entry := [⟨0, 10⟩, ⟨1, 12⟩, ⟨2, 15⟩]
    let r4 := grunN c19Beh3 4 (c19Init c19Prog3) []
    let r9 := grunN c19Beh3 9 (c19Init c19Prog3) []
    let r12 := grunN c19Beh3 12 (c19Init c19Prog3) []
    let r40 := grunN c19Beh3 40 (c19Init c19Prog3) []
    (r4.1.wraps = 0 ∧ r4.2 = [⟨3, snap, [⟨1, 12⟩, ⟨2, 15⟩], [0]⟩]) ∧
    (r9.1.wraps = 1 ∧ r9.2 = [⟨3, snap, [⟨2, 15⟩], [0, 1]⟩]) ∧
    (r12.1.wraps = 1 ∧ r12.2 = [⟨3, snap, [⟨2, 15⟩], [0, 1, 3, 4, 5]⟩] ∧
      absL r12.1 0 = [⟨0, 10⟩, ⟨1, 12⟩, ⟨3, 11⟩, ⟨4, 13⟩, ⟨5, 14⟩]) ∧
    (r40.2 = [] ∧ r40.1.trace.reverse =
      [.res (.handle 0), .res (.handle 1), .res (.handle 2),
       .call ⟨0, 0, 10, 7, false⟩, .res (.handle 3), .res (.handle 4), .res (.handle 5), .res (.bool true),
       .call ⟨0, 1, 12, 7, false⟩, .call ⟨0, 3, 11, 7, false⟩, .call ⟨0, 4, 13, 7, false⟩,
       .call ⟨0, 5, 14, 7, false⟩, .res .unit]) ∧
    GInv r9.1 r9.2 ∧ GInv r12.1 r12.2 := by
  intro snap r4 r9 r12 r40
  have h0 : GInv (c19Init c19Prog3) [] := C19_during_once_init (c19Init_inv c19Prog3) rfl
  exact ⟨by decide +kernel, by decide +kernel, by decide +kernel, by decide +kernel,
    C19_during_once_inv c19Beh3 9 h0, C19_during_once_inv c19Beh3 12 h0⟩

/-- **the tie on the wrap-during-invocation run** (`c19Beh3` / `c19Prog3` above, 12 steps).  The
    traversal started when the trace had 3 events (mark 3) and has 1 frame under it (the suspended
    main program), so its emitter is 1.  The annotation (newest first) marks the five `.call`
    events with 1 (the `.res` events of the callback's four commands carry 0); the `.call` events
    emitted by the traversal since its mark are `[0, 1, 3, 4, 5]` — the ghost field `called`.  `TInv`
    holds there, and the annotation is the one computed without ghost records. -/
example :
    let r12 := trunN c19Beh3 12 (c19Init c19Prog3) [] [] []
    (r12.2.2.1 = [3] ∧ r12.2.2.2 = [1, 1, 1, 1, 0, 0, 0, 0, 1, 0, 0, 0] ∧
      r12.2.2.2 = arunN c19Beh3 12 (c19Init c19Prog3) [] ∧
      emittedBy 1 (since 3 (r12.1.trace.zip r12.2.2.2)) = [0, 1, 3, 4, 5] ∧
      r12.2.1.map (·.called) = [emittedBy 1 (since 3 (r12.1.trace.zip r12.2.2.2))]) ∧
    TInv r12.1 r12.2.1 r12.2.2.1 r12.2.2.2 :=
  have h0 : TInv (c19Init c19Prog3) [] [] [] := C19_called_is_trace_init (m := c19Init c19Prog3) rfl
  ⟨by decide +kernel, C19_called_is_trace_inv c19Beh3 12 h0⟩

/-- the first callback, on its first call, invokes the list again -/
def c19Beh4 : Beh := fun c nth =>
  if c.cb = 10 ∧ nth = 0 then .op (.invoke 0 9) fun _ => .ret true else .ret true

def c19Prog4 : Prog :=
  .op (.append 0 10) fun _ => .op (.append 0 12) fun _ => .op (.invoke 0 7) fun _ => .ret true

/-- **the tie with a nested invocation.**  The outer invocation (argument 7, mark 2, emitter 1) calls
    handle 0, whose callback starts an inner invocation of the same list (argument 9, mark 3,
    emitter 3: under it are the suspended callback, the outer traversal and the suspended main
    program).  After 5 steps both run: the inner one has called `[0, 1]`, the outer one `[0]` — although
    all three `.call` events lie after the outer mark, the annotation attributes only the first to
    the outer traversal.  At the end the outer traversal has emitted the calls `[0, 1]` (events 3
    and 7 of the trace), the inner one `[0, 1]` (events 4 and 5). -/
example :
    let r5 := trunN c19Beh4 5 (c19Init c19Prog4) [] [] []
    let r40 := trunN c19Beh4 40 (c19Init c19Prog4) [] [] []
    (r5.2.1.map (·.called) = [[0, 1], [0]] ∧ r5.2.2.1 = [3, 2] ∧ r5.2.2.2 = [3, 3, 1, 0, 0] ∧
      emittedBy 3 (since 3 (r5.1.trace.zip r5.2.2.2)) = [0, 1] ∧
      emittedBy 1 (since 2 (r5.1.trace.zip r5.2.2.2)) = [0]) ∧
    (r40.1.trace.reverse =
      [.res (.handle 0), .res (.handle 1), .call ⟨0, 0, 10, 7, false⟩,
       .call ⟨0, 0, 10, 9, false⟩, .call ⟨0, 1, 12, 9, false⟩, .res .unit,
       .call ⟨0, 1, 12, 7, false⟩, .res .unit] ∧
      r40.2.2.2.reverse = [0, 0, 1, 3, 3, 3, 1, 1] ∧
      emittedBy 1 (since 2 (r40.1.trace.zip r40.2.2.2)) = [0, 1] ∧
      emittedBy 3 (since 3 (r40.1.trace.zip r40.2.2.2)) = [0, 1]) ∧
    GInv r5.1 r5.2.1 ∧ TInv r5.1 r5.2.1 r5.2.2.1 r5.2.2.2 :=
  have h0 : TInv (c19Init c19Prog4) [] [] [] := C19_called_is_trace_init (m := c19Init c19Prog4) rfl
  have g0 : GInv (c19Init c19Prog4) [] := C19_during_once_init (c19Init_inv c19Prog4) rfl
  ⟨by decide +kernel, by decide +kernel, ginv_trunN c19Beh4 5 [] [] g0, C19_called_is_trace_inv c19Beh4 5 h0⟩

/-- decidable shape test: the program on top is about to `invoke l arg`, with `d` frames under it -/
def topInvokeIs (l arg d : Nat) : List MFrame → Bool
  | .prog (.op (.invoke l' arg') _) :: rest => l' == l && arg' == arg && rest.length == d
  | _ => false

theorem topInvokeIs_sound {st : List MFrame} {l arg d : Nat} (h : topInvokeIs l arg d st = true) :
    ∃ kk rest, st = .prog (.op (.invoke l arg) kk) :: rest ∧ rest.length = d := by
  unfold topInvokeIs at h
  split at h
  · simp only [Bool.and_eq_true, beq_iff_eq] at h
    obtain ⟨⟨rfl, rfl⟩, h⟩ := h
    exact ⟨_, _, rfl, h⟩
  · cases h

/-- decidable shape test: the top callback returns `v` into the traversal `iter l n cap arg ho`, which
    has `d` frames under it -/
def topRetIterIs (v : Bool) (l n cap arg : Nat) (ho : Bool) (d : Nat) : List MFrame → Bool
  | .prog (.ret v') :: .iter l' n' cap' arg' ho' :: below =>
    v' == v && l' == l && n' == n && cap' == cap && arg' == arg && ho' == ho && below.length == d
  | _ => false

theorem topRetIterIs_sound {st : List MFrame} {v : Bool} {l n cap arg : Nat} {ho : Bool} {d : Nat}
    (h : topRetIterIs v l n cap arg ho d st = true) :
    ∃ below, st = .prog (.ret v) :: .iter l n cap arg ho :: below ∧ below.length = d := by
  unfold topRetIterIs at h
  split at h
  · simp only [Bool.and_eq_true, beq_iff_eq] at h
    obtain ⟨⟨⟨⟨⟨⟨rfl, rfl⟩, rfl⟩, rfl⟩, rfl⟩, rfl⟩, h⟩ := h
    exact ⟨_, rfl, h⟩
  · cases h

/-- **`C19_trace_once` on the wrap-during-invocation run** (non-vacuity of its hypotheses, and its
    conclusion there).  `m1` (3 steps) is about to `invoke` list 0 with content `[0, 1, 2]`,
    `nextId = 3`; the traversal runs through the steps 4 … 12, the counter wraps meanwhile; in
    `m2` (12 steps) its skip loop finds nothing more.  The `.call` events it appended to the trace
    are `[0, 1, 3, 4, 5]`; those `< 3` are `[0, 1]`, a sublist of `[0, 1, 2]`; every callback of
    `[0, 1, 2]` that is in the list at the end (0 and 1; 2 was removed) was called. -/
example :
    let m1 := (MCfg.runN c19Beh3 3 (c19Init c19Prog3)).1
    let m2 := (MCfg.runN c19Beh3 12 (c19Init c19Prog3)).1
    let calls := emittedBy 1 (since m1.trace.length (m2.trace.zip (arunN c19Beh3 12 (c19Init c19Prog3) [])))
    (calls = [0, 1, 3, 4, 5] ∧ m1.nextId = 3 ∧ absL m1 0 = [⟨0, 10⟩, ⟨1, 12⟩, ⟨2, 15⟩] ∧ m2.wraps = 1 ∧
      absL m2 0 = [⟨0, 10⟩, ⟨1, 12⟩, ⟨3, 11⟩, ⟨4, 13⟩, ⟨5, 14⟩]) ∧
    List.Sublist (calls.filter (fun x => decide (x < m1.nextId))) (SList.ids (absL m1 0)) ∧
    (∀ e ∈ absL m1 0, (absL m2 0).present e.id = true → e.id ∈ calls) := by
  intro m1 m2 calls
  -- one evaluation of the run for everything that is read off it
  have hev : topInvokeIs 0 7 0 (MCfg.runN c19Beh3 3 (c19Init c19Prog3)).1.stack = true ∧
      topRetIterIs true 0 5 3 7 false 1 (MCfg.runN c19Beh3 12 (c19Init c19Prog3)).1.stack = true ∧
      (∀ t, t < 13 → 3 < t → 3 ≤ (MCfg.runN c19Beh3 t (c19Init c19Prog3)).1.stack.length) ∧
      seek ((MCfg.runN c19Beh3 12 (c19Init c19Prog3)).1.lists 0).heap 3
        ((MCfg.runN c19Beh3 12 (c19Init c19Prog3)).1.nextId + 1)
        (((MCfg.runN c19Beh3 12 (c19Init c19Prog3)).1.lists 0).heap 5).next = none ∧
      (calls = [0, 1, 3, 4, 5] ∧ m1.nextId = 3 ∧ absL m1 0 = [⟨0, 10⟩, ⟨1, 12⟩, ⟨2, 15⟩] ∧ m2.wraps = 1 ∧
        absL m2 0 = [⟨0, 10⟩, ⟨1, 12⟩, ⟨3, 11⟩, ⟨4, 13⟩, ⟨5, 14⟩]) := by decide +kernel
  obtain ⟨h1, h2, key, hend, hvals⟩ := hev
  obtain ⟨kk, rest, h1, hr⟩ := topInvokeIs_sound h1
  obtain ⟨below, h2, hb⟩ := topRetIterIs_sound h2
  have e12 : 12 = 3 + (8 + 1) := rfl
  rw [e12] at h2 hend
  have h := C19_trace_once c19Beh3 (c19Init_inv c19Prog3) rfl 3 8 (Or.inl ⟨rfl, h1⟩)
    (fun t h1 h2 => by rw [hr]; exact key t (by omega) h1) h2 (by rw [hb, hr]) hend
  rw [hr, ← e12] at h
  exact ⟨hvals, h.2.2.2.1, h.2.2.2.2⟩

end Evp
