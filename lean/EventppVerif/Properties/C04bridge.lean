import EventppVerif.Generated.DispatchFrag
/-
  Property C04, bridge to the source for the `getEvent` policy.

  "dispatch … invokes exactly the listeners currently registered for the event that the getEvent
  policy (by default the first argument) yields from the call's own arguments".

  In the machine (Q/Machine.lean) `dispatch key arg` / `enqueue key arg` take the event `key` that
  the policy yielded.  In the source the policy in force at a call site is chosen by
      SelectGetEvent<Policies_, EventType_, HasFunctionGetEvent<Policies_, X...>::value>::Type
  which silently falls back to "the first argument is the event" when the user's policy is not
  callable with the argument list `X...` the probe was instantiated with.  The user's policy is
  therefore applied to the call's own arguments only if `X...` is the argument list of the call.
  `getEventSites` is regenerated from the four headers on every run: one row per
  `GetEvent::getEvent(…)` call with the probe of the alias in scope.  (`selected` is the small model
  of that selection; the harness variants with a user getEvent policy — VH_GETEVENT —
  exercise the same sites on the real code.)
-/
namespace Evp.C04Bridge
open Evp.Gen.Dispatch

/-- which policy a call site uses: the user's if the probe instantiated with `probe` finds it
    callable, the default (first argument) otherwise -/
def selected (userCallableWith : String → Bool) (probe : String) : String :=
  if userCallableWith probe then "user" else "default"

/-- **C04 (bridge).**  Every call of the getEvent policy is selected by a probe instantiated with the
    call's own argument list. -/
theorem C04_bridge_getevent_probe : ∀ s ∈ getEventSites, s.2.1 = s.2.2 := by decide +kernel

/-- hence: a user policy that is callable with the arguments of a call is the policy that call uses,
    at every site -/
theorem C04_getevent_selected (userCallableWith : String → Bool) :
    ∀ s ∈ getEventSites, userCallableWith s.2.2 = true → selected userCallableWith s.2.1 = "user" := by
  intro s hs hc
  have := C04_bridge_getevent_probe s hs
  simp [selected, this, hc]

/-- all eight sites are present (two per header) -/
theorem C04_bridge_sites : getEventSites.length = 8 := by decide

end Evp.C04Bridge
