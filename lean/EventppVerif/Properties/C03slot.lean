import EventppVerif.Conc.HeterSlot
/-
  Property C03 for the heterogeneous callback list: concurrent first use of a prototype slot.

  "… any number of threads may concurrently append … on one callback list or dispatcher … none is
  lost or duplicated."  A `HeterCallbackList` keeps one callback list per prototype and creates it
  on first use with double-checked locking (`doGetCallbackList`).  Conc/HeterSlot.lean models the
  slot with one micro-step per unlocked read, one for the critical section and one for the append
  to the list that was read; the list's own concurrency is the list model of C03.
-/
namespace Evp.HSlot

/-- **C03 (heterogeneous list, no callback lost at the first use of a slot).**  For every family of
    thread programs and every schedule: at most one list object is ever created for the slot, and
    the list the slot points to holds exactly the appends that have returned, in the order in which
    they returned. -/
theorem C03_heter_slot_no_loss (progs : List (List Nat)) (sched : List Tid) :
    (exec (init progs) sched).lists.length ≤ 1 ∧
    current (exec (init progs) sched) = (exec (init progs) sched).log := by
  obtain ⟨_, ⟨hsl, hls, hlog, _⟩ | ⟨hsl, hls, _⟩⟩ := inv_exec (inv_init progs) sched
  · simp [current, hsl, hls, hlog]
  · simp [current, hsl, hls]

/-- the invariant behind it holds after every micro-step of every schedule -/
theorem C03_heter_slot_inv (progs : List (List Nat)) (sched : List Tid) : Inv (exec (init progs) sched) :=
  inv_exec (inv_init progs) sched

/-- no call blocks: a thread with a call left can always take its next micro-step -/
theorem C03_heter_slot_progress (s : State) (t : Tid) (th : Thread) (hg : getT s t = some th)
    (h : th.prog ≠ []) : (step s t).isSome = true :=
  progress s t th hg h

/-- the inner re-check is what makes it true: without it the model loses a completed append
    (two threads, one append each: both see the empty slot, thread 1 creates the list and appends
    callback 20 to it, then thread 0 creates ANOTHER list, overwrites the slot and appends 10 there;
    the schedule is the one the baton scheduler finds on the real code when the re-check is removed —
    seeded change C03c) -/
theorem C03_heter_slot_counterexample :
    let s := exec (init [[10], [20]] false) [0, 1, 1, 1, 1, 0, 0, 0]
    s.log = [20, 10] ∧ current s = [10] ∧ s.lists.length = 2 := by
  decide

end Evp.HSlot
