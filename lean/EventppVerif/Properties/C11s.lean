import EventppVerif.Q.Demo
/-
  Property C11 (sequential part) — the emptiness guard `queueEmptyCounter`.

  Model: Q/Machine.lean.  `emptyQueue` answers `queue.isEmpty && ec == 0`; a processing call
  increments `ec` before it moves events out of `queueList` and decrements it when it has put the
  declined ones back.

  All theorems quantify over every behaviour `b` of listeners, filters and predicates, every
  program, every ordering policy and every reachable configuration (`Reachable`, Q/Inv.lean).
-/
namespace Evp.Q

/-- **C11 (guard).** In every reachable configuration `queueEmptyCounter` equals the number of
    running processing calls (`.proc` frames on the stack). -/
theorem C11_guard (b : QBeh) (c : QCfg) (h : Reachable b c) : c.ec = procCount c.stack :=
  h.guard

theorem C11_guard_runN (b : QBeh) (n : Nat) (c0 : QCfg) (h0 : Init c0) :
    (QCfg.runN b n c0).1.ec = procCount (QCfg.runN b n c0).1.stack :=
  ((Reachable.init h0).runN (b := b) n).guard

/-- Whatever runs inside a processing call — a listener, a filter, the predicate, at any nesting
    depth — sees `emptyQueue = false`, although `queueList` itself may be empty at that moment
    (the events are in the call's local lists). -/
theorem C11_listener_sees_nonempty (b : QBeh) (c : QCfg) (h : Reachable b c) (f : QFrame)
    (hf : f ∈ c.stack) (hp : isProc f = true) : c.emptyQueue = false := by
  have : 0 < c.ec := h.guard ▸ List.length_pos_of_mem (List.mem_filter.mpr ⟨hf, hp⟩)
  simp [QCfg.emptyQueue, Nat.ne_of_gt this]

/-- If `emptyQueue` answers `true` then no slot anywhere holds an event — nothing is queued, no
    processing call is running — and (by C05, exactly once) every event ever enqueued has been
    fully consumed: its dispatch has ended, or it was taken, or it was cleared. -/
theorem C11_empty_means_consumed (b : QBeh) (c : QCfg) (h : Reachable b c) (he : c.emptyQueue = true) :
    c.queue = [] ∧ procCount c.stack = 0 ∧ c.inflight = [] ∧
    (consumedSeqs c.trace).Perm (List.range c.nextSeq) :=
  h.empty_consumed he

/-- Conversely `emptyQueue` answers `true` as soon as nothing is queued and no processing call is
    running. -/
theorem C11_empty_iff (b : QBeh) (c : QCfg) (h : Reachable b c) :
    c.emptyQueue = true ↔ c.queue = [] ∧ procCount c.stack = 0 := by
  constructor
  · intro he
    exact ⟨(h.empty_consumed he).1, (h.empty_consumed he).2.1⟩
  · rintro ⟨hq, hp⟩
    simp [QCfg.emptyQueue, hq, h.guard, hp]

/-! ### non-vacuity

`Demo.main`: `listen 0 1; enqueue 0 10; enqueue 0 11; enqueue 0 12; processIf 7; process; emptyq`
where listener 1 enqueues (0, 99) on its first call and predicate 7 declines argument 11. -/

example : Reachable Demo.beh (Demo.at_ 15) := Demo.at_reachable 15

/-- step 15: inside the listener called by the final `process`, which took both queued events:
    `queueList` is empty, but the guard is up -/
example : (Demo.at_ 15).queue = [] ∧ (Demo.at_ 15).ec = 1 ∧ procCount (Demo.at_ 15).stack = 1 ∧
    seqsOf (Demo.at_ 15).inflight = [1, 3] ∧ (Demo.at_ 15).emptyQueue = false := by decide +kernel

/-- step 7: inside listener 1 during `processIf`, after its re-entrant `enqueue` -/
example : (Demo.at_ 7).ec = 1 ∧ procCount (Demo.at_ 7).stack = 1 ∧
    (Demo.at_ 7).emptyQueue = false := by decide +kernel

/-- the final `emptyq` answers `true`, and all four events have been consumed -/
example : (QCfg.runN Demo.beh 20 Demo.c0).2 = true ∧ (Demo.at_ 20).emptyQueue = true ∧
    (Demo.at_ 20).trace.head? = some (.res (.bool true)) ∧
    consumedSeqs (Demo.at_ 20).trace = [3, 1, 2, 0] ∧ (Demo.at_ 20).nextSeq = 4 := by decide +kernel

end Evp.Q
