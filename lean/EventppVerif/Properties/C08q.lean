import EventppVerif.Properties.C05
/-
  Property C08 (queue part) — slot discipline of `EventQueue`.

  Model: Q/Machine.lean.  A slot (`BufferedItem`) is, at every moment, in exactly one of
  `queueList` (`queue`), `freeList` (`free`) or the local `tempList`/`idleList` of one running
  processing call (`todo`/`kept`/`idle` of a `.proc` frame); it is occupied exactly where the C++
  code assumes so.  Hence `set` (placement-new) is only applied to empty storage and `get`/`clear`
  (destructor) only to constructed storage, and the defensive branches of the model are dead.

  All theorems quantify over every behaviour `b` of listeners, filters and predicates (arbitrary
  re-entrant programs), every program, every ordering policy and every reachable configuration
  (`Reachable`, Q/Inv.lean; `C08_reachable_runN` ties it to `QCfg.runN`).
-/
namespace Evp.Q

/-- Every configuration produced by `runN` from an initial configuration is `Reachable`, and
    conversely. -/
theorem C08_reachable_runN (b : QBeh) (c : QCfg) :
    Reachable b c ↔ ∃ n c0, Init c0 ∧ (QCfg.runN b n c0).1 = c :=
  reachE_iff_reachable.symm.trans ⟨fun ⟨c0, n, h⟩ => ⟨n, c0, h⟩, fun ⟨n, c0, h⟩ => ⟨c0, n, h⟩⟩

/-- **C08 (slot discipline).** In every reachable configuration
    * every queued slot is occupied, every free slot is empty;
    * in every running processing call the slots still to be examined (`todo`) and the declined
      ones (`kept`) are occupied, the dispatched-and-cleared ones (`idle`) are empty;
    * the slot ids over `queue ++ free ++ inflight` are a permutation of `0 … nextSlot-1`: every
      slot ever created is in exactly one list, exactly once — never duplicated, never lost. -/
theorem C08_queue_slots (b : QBeh) (c : QCfg) (h : Reachable b c) :
    (∀ s ∈ c.queue, s.ev.isSome = true) ∧
    (∀ s ∈ c.free, s.ev = none) ∧
    (∀ mode todo kept idle ph, QFrame.proc mode todo kept idle ph ∈ c.stack →
      (∀ s ∈ todo, s.ev.isSome = true) ∧ (∀ s ∈ kept, s.ev.isSome = true) ∧ (∀ s ∈ idle, s.ev = none)) ∧
    (sidsOf (c.queue ++ c.free ++ c.inflight)).Perm (List.range c.nextSlot) :=
  ⟨h.queue_occupied, h.free_empty, fun _ _ _ _ _ hm => h.frame_slots hm, h.sids_perm⟩

theorem C08_queue_slots_runN (b : QBeh) (n : Nat) (c0 : QCfg) (h0 : Init c0) :
    let c := (QCfg.runN b n c0).1
    (∀ s ∈ c.queue, s.ev.isSome = true) ∧ (∀ s ∈ c.free, s.ev = none) ∧
    (sidsOf (c.queue ++ c.free ++ c.inflight)).Perm (List.range c.nextSlot) :=
  have h := C08_queue_slots b _ (C05_reachable_runN b n c0 h0)
  ⟨h.1, h.2.1, h.2.2.2⟩

/-- Consequences of the permutation: slot ids are pairwise distinct, all below `nextSlot`, and the
    three kinds of lists together hold exactly `nextSlot` slots. -/
theorem C08_slots_distinct (b : QBeh) (c : QCfg) (h : Reachable b c) :
    (sidsOf (c.queue ++ c.free ++ c.inflight)).Nodup ∧
    (∀ s ∈ c.queue ++ c.free ++ c.inflight, s.sid < c.nextSlot) ∧
    c.queue.length + c.free.length + c.inflight.length = c.nextSlot := by
  have hp := h.sids_perm
  refine ⟨hp.nodup_iff.mpr List.nodup_range,
    fun s hs => List.mem_range.mp (hp.mem_iff.mp (List.mem_map_of_mem hs)), ?_⟩
  simpa [sidsOf, Nat.add_assoc] using hp.length_eq

/-- `set` is only applied to an empty slot: `enqueue` recycles the head of `free` (or makes a new
    slot), and that head is empty. -/
theorem C08_set_on_empty (b : QBeh) (c : QCfg) (h : Reachable b c) (s : Slot) (fr : List Slot)
    (hf : c.free = s :: fr) : s.ev = none :=
  h.free_empty s (by simp [hf])

/-- `get`/`clear` are only applied to occupied slots: the queue head read by `peek`/`take` is
    occupied (their `none` branches are dead) … -/
theorem C08_get_on_occupied (b : QBeh) (c : QCfg) (h : Reachable b c) (s : Slot) (r : List Slot)
    (hq : c.queue = s :: r) : s.ev.isSome = true :=
  h.queue_occupied s (by simp [hq])

/-- … and when a dispatch has ended (`.done` on top) what is below is either the suspended
    caller of `dispatch` or the processing call that started the dispatch, in phase `.disp`, with
    a non-empty `todo` whose head — the slot `endDispatch` clears — is occupied, directly above
    the suspended caller of `process…`. -/
theorem C08_done_below (b : QBeh) (c : QCfg) (h : Reachable b c) (below : List QFrame)
    (hst : c.stack = .done :: below) :
    (∃ k r, below = .wait k :: r) ∨
    (∃ mode s rest kept idle k r,
      below = .proc mode (s :: rest) kept idle .disp :: .wait k :: r ∧ s.ev.isSome = true) := by
  have hs := h.shape
  rw [hst] at hs
  cases hs with
  | done hr =>
    cases hr with
    | wait _ => exact .inl ⟨_, _, rfl⟩
    | @disp mode s rest kept idle k k' _ =>
      have hm : QFrame.proc mode (s :: rest) kept idle .disp ∈ c.stack := hst ▸ .tail _ (.head _)
      exact .inr ⟨mode, s, rest, kept, idle, k, k', rfl, (h.frame_slots hm).1 s (.head _)⟩

/-- The dead branch `| _, _ => none` of `step`: when a predicate returns, the slot it examined is
    occupied and the processing call is a `processIf`/`processUntil`. -/
theorem C08_pred_frame (b : QBeh) (c : QCfg) (h : Reachable b c) (v : Bool) (mode : PMode) (s : Slot)
    (rest kept idle : List Slot) (below : List QFrame)
    (hst : c.stack = .prog (.ret v) :: .proc mode (s :: rest) kept idle .pred :: below) :
    s.ev.isSome = true ∧ ((∃ p, mode = .ifp p) ∨ (∃ p, mode = .untilp p)) := by
  have hm : QFrame.proc mode (s :: rest) kept idle .pred ∈ c.stack := hst ▸ .tail _ (.head _)
  refine ⟨(h.frame_slots hm).1 s (.head _), ?_⟩
  have hs := h.shape
  rw [hst] at hs
  cases hs with
  | prog hk =>
    cases hk with
    | pred _ hp =>
      cases mode with
      | all | one => cases hp
      | ifp p => exact .inl ⟨p, rfl⟩
      | untilp p => exact .inr ⟨p, rfl⟩

/-- The dead branch `s.ev = none` of `procNext`: `procNext` examines the head of a `todo` list,
    and every `todo` list that exists (`C08_queue_slots`) or is about to exist (`startProc` takes a
    prefix of `queue`) consists of occupied slots; on an occupied head `procNext` dispatches it
    (`process`, `processOne`) … -/
theorem C08_procNext_dispatch (b : QBeh) (c : QCfg) (mode : PMode) (s : Slot)
    (rest kept idle : List Slot) (below : List QFrame) (e : QEvent) (he : s.ev = some e)
    (hm : mode.hasPred = false) :
    QCfg.procNext b c mode (s :: rest) kept idle below =
      QCfg.nextFilter b c e.key e.arg c.filters (.proc mode (s :: rest) kept idle .disp :: below) :=
  C05_dispatch_args b c mode s rest kept idle below e he hm

/-- … or asks the predicate (`processIf`, `processUntil`). -/
theorem C08_procNext_pred (b : QBeh) (c : QCfg) (mode : PMode) (p : Cb) (s : Slot)
    (rest kept idle : List Slot) (below : List QFrame) (e : QEvent) (he : s.ev = some e)
    (hm : mode = .ifp p ∨ mode = .untilp p) :
    QCfg.procNext b c mode (s :: rest) kept idle below =
      { c with
        trace := .call ⟨.pred, e.key, 0, p, e.arg⟩ :: c.trace
        stack := .prog (QCfg.callProg b c ⟨.pred, e.key, 0, p, e.arg⟩) ::
                 .proc mode (s :: rest) kept idle .pred :: below } :=
  C05_pred_args b c mode p s rest kept idle below e he hm

/-- Stack shape (`StackOk`, Q/Inv.lean): a running program sits on nothing, on the dispatch that
    called it (`.filt`, `.iter`) or on the `.pred` frame of a processing call; a dispatch sits on
    the suspended caller (`.wait`) or on the `.disp` frame of a processing call; every processing
    call has a non-empty `todo` and sits directly on the suspended caller of `process…`. -/
theorem C08_stack_shape (b : QBeh) (c : QCfg) (h : Reachable b c) :
    StackOk c.stack ∧
    (∀ mode todo kept idle ph, QFrame.proc mode todo kept idle ph ∈ c.stack → todo ≠ []) ∧
    (∀ st1 st2 mode todo kept idle ph, c.stack = st1 ++ QFrame.proc mode todo kept idle ph :: st2 →
      ∃ k r, st2 = .wait k :: r) :=
  ⟨h.shape, fun _ _ _ _ _ hm => h.todo_ne_nil hm, fun _ _ _ _ _ _ _ hst => h.proc_above_wait hst⟩

/-- No `none` branch of `step` is ever taken before the program has ended: a reachable
    configuration with a non-empty stack can step. -/
theorem C08_never_stuck (b : QBeh) (c : QCfg) (h : Reachable b c) (hne : c.stack ≠ []) :
    (QCfg.step b c).isSome = true :=
  h.progress hne

/-! The run of Q/Demo.lean.
`Demo.main`: `listen 0 1; enqueue 0 10; enqueue 0 11; enqueue 0 12; processIf 7; process; emptyq`
where listener 1 enqueues (0, 99) on its first call and predicate 7 declines argument 11. -/

/-- after 7 steps the machine is inside listener 1, called by `processIf` for the first event:
    the three slots taken are in flight, the re-entrant `enqueue` got a fourth slot -/
example : Reachable Demo.beh (Demo.at_ 7) := Demo.at_reachable 7
example : (Demo.at_ 7).queue = [⟨3, some ⟨3, 0, 99⟩⟩] ∧ (Demo.at_ 7).free = [] ∧
    sidsOf (Demo.at_ 7).inflight = [0, 1, 2] ∧ (Demo.at_ 7).nextSlot = 4 := by decide +kernel

/-- after `processIf`: the declined slot is back in front of the queue, the two dispatched slots
    are recycled, empty -/
example : (Demo.at_ 13).queue = [⟨1, some ⟨1, 0, 11⟩⟩, ⟨3, some ⟨3, 0, 99⟩⟩] ∧
    (Demo.at_ 13).free = [⟨0, none⟩, ⟨2, none⟩] ∧ (Demo.at_ 13).inflight = [] := by decide +kernel

/-- the run ends (stack empty) after 20 steps with all four slots free -/
example : (QCfg.runN Demo.beh 20 Demo.c0).2 = true ∧
    (Demo.at_ 20).free = [⟨0, none⟩, ⟨2, none⟩, ⟨1, none⟩, ⟨3, none⟩] := by decide +kernel

end Evp.Q
