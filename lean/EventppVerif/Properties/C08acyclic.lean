import EventppVerif.CL.Acyclic
import EventppVerif.Properties.C08
/-
  Property C08 (list part, continued) — the garbage has no `shared_ptr` cycle.

  In the source `head`, `tail` and every node's `next` / `previous` are `std::shared_ptr`s.
  `doFreeNode` unlinks a node from its neighbours and marks it removed but leaves the node's own
  `next` / `previous` untouched (a running traversal may stand on it), so removed nodes keep stale
  owning pointers to other nodes.  C08.lean shows that the list object retains exactly the live
  nodes and that live nodes point only to live nodes; what it does not show is that the nodes the
  object no longer retains are actually *released* by reference counting, which needs: no cycle
  of owning pointers among them.

  Proved here, for every list object of every reachable state of the Model machine (every
  behaviour of the callbacks, every number of steps, every command including the whole-object
  ones, generation-counter wraps included): `append`, `prepend`, `insert`, `remove` never write a
  node that is already removed, and at the moment a node is removed its own links lead to live nodes
  only; hence an edge between two removed nodes leads from the earlier removed to the later removed
  one: `Ranked` (CL/Acyclic.lean) — a rank (removal time) strictly increases along every
  `next` / `previous` edge between removed nodes — is an invariant; so there is no cycle of removed
  nodes, and "removed" is the same as "not retained by the list object".
  Consequently every removed node is released as soon as no running traversal and no locked handle
  holds it (the reference-count bookkeeping itself is below the abstraction level of the Model; it
  is covered by the harness run under the leak checker, see DESIGN.md, C08).
-/
namespace Evp

/-- **C08 (removed nodes are frozen).**  Let `l` represent `SL` (`b` = the next fresh node id) and
    let `a` be a node that is already removed (and is not the id `b` the operation is about to
    allocate).  Then `append`, `prepend`, `insert` (also across a generation-counter wrap) and
    `remove` leave the whole node `a` — `next`, `previous`, callback, counter — unchanged; in
    particular it stays removed and keeps its stale links. -/
theorem C08_removed_fields_frozen {l : CL} {SL : SList} {b : Nat} (r : Rep l SL b) (a : Nat)
    (ha : (l.heap a).counter = 0) (hab : a ≠ b) (cb : Cb) (h : Hd) :
    (l.append (b + 1) b cb).heap a = l.heap a ∧
    (l.prepend (b + 1) b cb).heap a = l.heap a ∧
    (l.insert (b + 1) b cb h).heap a = l.heap a ∧
    (l.remove h).1.heap a = l.heap a := by
  have hne : some b ≠ some a := fun e => hab (Option.some.inj e).symm
  exact ⟨(added_append r cb).frame.fwd a ha hne, (added_prepend r cb).frame.fwd a ha hne,
    (added_insert r cb h).frame.fwd a ha hne, (remove_removed r.wf h).1 a ha⟩

/-- **C08 (no node is revived, only `remove` removes).**  A node that is removed after `append`,
    `prepend` or `insert` was removed before (and is not the new node); a node that is removed
    after `remove h` is `h` or was removed before. -/
theorem C08_removed_only_by_remove {l : CL} {SL : SList} {b : Nat} (r : Rep l SL b) (a : Nat) (cb : Cb) (h : Hd) :
    (((l.append (b + 1) b cb).heap a).counter = 0 → (l.heap a).counter = 0 ∧ a ≠ b) ∧
    (((l.prepend (b + 1) b cb).heap a).counter = 0 → (l.heap a).counter = 0 ∧ a ≠ b) ∧
    (((l.insert (b + 1) b cb h).heap a).counter = 0 → (l.heap a).counter = 0 ∧ a ≠ b) ∧
    (((l.remove h).1.heap a).counter = 0 → (l.heap a).counter = 0 ∨ a = h) := by
  have key : ∀ {l' : CL}, Frame l l' (some b) → (l'.heap a).counter = 0 → (l.heap a).counter = 0 ∧ a ≠ b :=
    fun f h0 => ⟨(f.bwd a h0).1, fun e => (f.bwd a h0).2 (by rw [e])⟩
  exact ⟨key (added_append r cb).frame, key (added_prepend r cb).frame, key (added_insert r cb h).frame,
    (remove_removed r.wf h).2.1 a⟩

/-- **C08 (at its removal a node points to live nodes only).**  After `remove h` of a callback `h`
    that is in the list, `h` still has the `next` / `previous` it had (the stale links), and every
    node they lead to is live after the removal: the only edges between `h` and other removed
    nodes are edges *into* `h`. -/
theorem C08_remove_links_live {l : CL} {SL : SList} {b : Nat} (r : Rep l SL b) (h : Hd)
    (hl : (l.heap h).counter ≠ 0) :
    ((l.remove h).1.heap h).next = (l.heap h).next ∧ ((l.remove h).1.heap h).prev = (l.heap h).prev ∧
    ∀ x, (l.remove h).1.edge h x → ((l.remove h).1.heap x).counter ≠ 0 :=
  (remove_removed r.wf h).2.2 hl

/-- **C08 (the ranking is kept by every list operation).**  The empty list object is ranked; if
    `l` represents `SL` and is ranked then so is the object after `append`, `prepend`, `insert`
    (wrap or not) and `remove`; a copy (`cloneFrom` into a fresh object) and a cleared / moved-from
    object are ranked outright — every node in their heaps is live, respectively there is none. -/
theorem C08_garbage_ranked_ops {l : CL} {SL : SList} {b : Nat} (r : Rep l SL b) (hr : Ranked l)
    (cb : Cb) (h : Hd) :
    Ranked ({} : CL) ∧
    Ranked (l.append (b + 1) b cb) ∧ Ranked (l.prepend (b + 1) b cb) ∧
    Ranked (l.insert (b + 1) b cb h) ∧ Ranked (l.remove h).1 ∧
    Ranked (l.clone (b + 1) b) ∧ Ranked { cur := l.cur, M := l.M } :=
  ⟨Ranked.empty, hr.frame (added_append r cb).frame, hr.frame (added_prepend r cb).frame,
    hr.frame (added_insert r cb h).frame, remove_ranked r.wf hr h, clone_ranked r,
    ranked_of_heap_empty rfl⟩

/-- **C08 (the ranking is an invariant of the machine).**  For every behaviour of the callbacks,
    every number of steps and every start world whose list objects are well formed (`MInv`) and
    ranked: every list object is ranked afterwards.  All commands are covered (`append`, `prepend`,
    `insert`, `remove`, `owns`, `empty`, `invoke`, `enum` to any nesting depth, `copyAssign`,
    `moveAssign`, `swap`, `setCounter`), generation-counter wraps included. -/
theorem C08_garbage_ranked_runN (beh : Beh) (n : Nat) {m : MCfg} (h : MInv m)
    (hr : ∀ l, Ranked (m.lists l)) : ∀ l, Ranked ((MCfg.runN beh n m).1.lists l) :=
  (MCfg.runN_induct (P := fun m => MInv m ∧ ∀ l, Ranked (m.lists l))
    (fun h st => ⟨minv_step beh h.1 st, ranked_step beh h.1 h.2 st⟩) n ⟨h, hr⟩).2

/-- the empty world (`k` list objects, about to run `p`) is well formed -/
theorem C08_init_inv (k : Nat) (p : Prog) : MInv { nlists := k, stack := [.prog p] } :=
  fun l => ⟨_, (C02_init k p).rep l⟩

/-- **C08 (ranking, from the empty world).**  In every state reachable from the empty world by any
    program `p` with any callbacks, some rank strictly increases along every `next` / `previous`
    edge that leads from a removed node to a removed node. -/
theorem C08_garbage_ranked_init (beh : Beh) (n k : Nat) (p : Prog) (l : Nat) :
    let cl := (MCfg.runN beh n { nlists := k, stack := [.prog p] }).1.lists l
    ∃ rank : Nat → Nat, ∀ a, (cl.heap a).counter = 0 →
      ∀ b, ((cl.heap a).next = some b ∨ (cl.heap a).prev = some b) → (cl.heap b).counter = 0 →
      rank a < rank b :=
  let ⟨rank, _, _, h⟩ := C08_garbage_ranked_runN beh n (C08_init_inv k p) (ranked_init _ rfl) l
  ⟨rank, fun a ha b he hb => h a b ⟨ha, hb, he⟩⟩

/-- **C08 (no cycle of removed nodes).**  In every world reachable from a well-formed ranked world
    (in particular from the empty world, `C08_garbage_acyclic_init`) no list object has a non-empty
    path `a → … → a` all of whose nodes are removed, `→` being `next` or `previous`
    (`GPath`, CL/Acyclic.lean). -/
theorem C08_garbage_acyclic (beh : Beh) (n : Nat) {m : MCfg} (h : MInv m)
    (hr : ∀ l, Ranked (m.lists l)) (l a : Nat) : ¬ GPath ((MCfg.runN beh n m).1.lists l) a a :=
  acyclic_of_ranked (C08_garbage_ranked_runN beh n h hr l) a

/-- **C08 (no cycle of removed nodes, from the empty world).**  For every program `p`, every
    behaviour of the callbacks and every number of steps from the empty world: no list object has
    a cycle of removed nodes. -/
theorem C08_garbage_acyclic_init (beh : Beh) (n k : Nat) (p : Prog) (l a : Nat) :
    ¬ GPath ((MCfg.runN beh n { nlists := k, stack := [.prog p] }).1.lists l) a a :=
  C08_garbage_acyclic beh n (C08_init_inv k p) (ranked_init _ rfl) l a

/-- **C08 (no cycle of removed nodes, paths as lists).**  The same with the path given as the list
    of its nodes: if `a → a₁ → … → a_k` with all nodes removed then no `aᵢ` is `a`. -/
theorem C08_garbage_acyclic_list (beh : Beh) (n : Nat) {m : MCfg} (h : MInv m)
    (hr : ∀ l, Ranked (m.lists l)) (l a : Nat) (p : List Nat)
    (hp : IsGPath ((MCfg.runN beh n m).1.lists l) a p) : a ∉ p :=
  acyclic_of_ranked_list (C08_garbage_ranked_runN beh n h hr l) a p hp

/-- **C08 (removed = not retained).**  For a list object representing a list, an edge between two
    removed nodes is the same as an edge between two nodes the object does not retain (`Reach`,
    `C08_list_quiescent`): the graph that `C08_garbage_acyclic` speaks about is the graph of the
    nodes not retained by the list object. -/
theorem C08_gedge_unretained {l : CL} {SL : SList} {b : Nat} (r : Rep l SL b) (a c : Nat) :
    l.gedge a c ↔ (¬ Reach l a ∧ ¬ Reach l c ∧ l.edge a c) := by
  have key : ∀ n, (l.heap n).counter = 0 ↔ ¬ Reach l n := fun n => by
    rw [C08_list_quiescent r n, r.wf.live n]
    exact Decidable.not_not.symm
  unfold CL.gedge
  rw [key a, key c]

instance (l : CL) (a b : Nat) : Decidable (l.edge a b) := by unfold CL.edge; exact inferInstance
instance (l : CL) (a b : Nat) : Decidable (l.gedge a b) := by unfold CL.gedge; exact inferInstance

/-- three appends (nodes 0, 1, 2), then the adjacent nodes 1 and 2 are removed, 1 first -/
def c08aProg12 : Prog :=
  .op (.append 0 10) fun _ => .op (.append 0 11) fun _ => .op (.append 0 12) fun _ =>
  .op (.remove 0 1) fun _ => .op (.remove 0 2) fun _ => .ret true

/-- the same, 2 first -/
def c08aProg21 : Prog :=
  .op (.append 0 10) fun _ => .op (.append 0 11) fun _ => .op (.append 0 12) fun _ =>
  .op (.remove 0 2) fun _ => .op (.remove 0 1) fun _ => .ret true

/-- Removing 1 and then 2: both are removed, node 1 still holds its stale `next = some 2` and
    `previous = some 0`, node 2 holds `previous = some 0` (1 was unlinked before 2 was removed):
    there is an edge `1 → 2` between removed nodes and none back, the list is ranked, and every
    ranking has `rank 1 < rank 2` (removal order). -/
example :
    let cl := (MCfg.runN c08Beh 6 { stack := [.prog c08aProg12] }).1.lists 0
    (cl.heap 1).counter = 0 ∧ (cl.heap 2).counter = 0 ∧
    (cl.heap 1).next = some 2 ∧ (cl.heap 1).prev = some 0 ∧
    (cl.heap 2).next = none ∧ (cl.heap 2).prev = some 0 ∧
    cl.gedge 1 2 ∧ ¬ cl.gedge 2 1 ∧ Ranked cl ∧
    (∀ rank B, RankedBy cl rank B → rank 1 < rank 2) ∧ ¬ GPath cl 1 1 := by
  intro cl
  have hr : Ranked cl := C08_garbage_ranked_runN c08Beh 6 (C08_init_inv 1 c08aProg12) (ranked_init _ rfl) 0
  -- the finite part is evaluated once; the last three conjuncts follow from the edge `1 → 2`
  exact And.imp_right (And.imp_right <| And.imp_right <| And.imp_right <| And.imp_right <| And.imp_right
    fun (h : cl.gedge 1 2 ∧ ¬ cl.gedge 2 1) =>
      ⟨h.1, h.2, hr, fun _ _ hh => hh.2 1 2 h.1, acyclic_of_ranked hr 1⟩) (by decide +kernel)

/-- Removing 2 and then 1: now node 2 holds the stale `previous = some 1`, node 1 holds
    `next = none` (2 was unlinked before 1 was removed): the edge between the removed nodes is
    `2 → 1`, again from the earlier removed to the later removed node, and none back. -/
example :
    let cl := (MCfg.runN c08Beh 6 { stack := [.prog c08aProg21] }).1.lists 0
    (cl.heap 1).counter = 0 ∧ (cl.heap 2).counter = 0 ∧
    (cl.heap 2).prev = some 1 ∧ (cl.heap 2).next = none ∧
    (cl.heap 1).next = none ∧ (cl.heap 1).prev = some 0 ∧
    cl.gedge 2 1 ∧ ¬ cl.gedge 1 2 ∧ Ranked cl ∧
    (∀ rank B, RankedBy cl rank B → rank 2 < rank 1) ∧ ¬ GPath cl 2 2 := by
  intro cl
  have hr : Ranked cl := C08_garbage_ranked_runN c08Beh 6 (C08_init_inv 1 c08aProg21) (ranked_init _ rfl) 0
  exact And.imp_right (And.imp_right <| And.imp_right <| And.imp_right <| And.imp_right <| And.imp_right
    fun (h : cl.gedge 2 1 ∧ ¬ cl.gedge 1 2) =>
      ⟨h.1, h.2, hr, fun _ _ hh => hh.2 2 1 h.1, acyclic_of_ranked hr 2⟩) (by decide +kernel)

/-- an explicit ranking from finitely many checks: `rank` works if it is below `B`, the ids from
    `k` on were never allocated, and it increases along the edges out of the removed nodes below `k` -/
theorem c08a_rankedBy_of_check (cl : CL) (rank : Nat → Nat) (B k : Nat) (hB : ∀ a, rank a < B)
    (hs : cl.heap.arr.size ≤ k)
    (hk : ∀ a, a < k → (cl.heap a).counter = 0 →
      ∀ b ∈ (cl.heap a).next.toList ++ (cl.heap a).prev.toList, (cl.heap b).counter = 0 → rank a < rank b) :
    RankedBy cl rank B := by
  refine ⟨hB, fun a b hg => ?_⟩
  obtain ⟨ha, hb, he⟩ := hg
  by_cases h3 : a < k
  · refine hk a h3 ha b ?_ hb
    rcases he with he | he <;> simp [he]
  · -- ids beyond the backing array were never allocated: they hold the default node
    have hd : cl.heap a = default := by
      show (cl.heap.arr[a]?).getD default = default
      rw [Array.getElem?_eq_none (by omega)]; rfl
    unfold CL.edge at he
    rw [hd] at he
    rcases he with he | he <;> cases he

/-- explicit rankings of the two examples: in the first one (1 removed before 2) the node id itself
    (capped at 3) is a rank, in the second one (2 removed before 1) the reversed id is -/
example :
    RankedBy ((MCfg.runN c08Beh 6 { stack := [.prog c08aProg12] }).1.lists 0) (fun x => min x 3) 4 ∧
    RankedBy ((MCfg.runN c08Beh 6 { stack := [.prog c08aProg21] }).1.lists 0) (fun x => 3 - min x 3) 4 :=
  -- `And.elim`: the two finite checks of each run are one evaluation
  ⟨And.elim (c08a_rankedBy_of_check _ _ 4 3 fun a => by show min a 3 < 4; omega) (by decide +kernel),
   And.elim (c08a_rankedBy_of_check _ _ 4 3 fun a => by show 3 - min a 3 < 4; omega) (by decide +kernel)⟩

end Evp
