import EventppVerif.Util.AnyId
/-
  Property C18 — AnyId keys are coherent: equality, ordering and hash agree.

  The theorems are about the operator definitions regenerated from
  include/eventpp/utilities/anyid.h on every run (`Gen.AnyId.eq`, `Gen.AnyId.lt`): if the source's
  expressions change, these proofs are re-checked against the new expressions.
  They hold for every value storage type `V`, every pair of value comparisons satisfying
  `Coherent` (both operators supported) — and `Cmp.none` (neither supported) is such a pair —,
  and all ids (all digests, including colliding ones).
-/
namespace Evp.AnyId
open Evp.Gen.AnyId

variable {V : Type} {c : Cmp V}

theorem Cmp.none_coherent (V : Type) : Coherent (Cmp.none V) := by
  refine ⟨?_, ?_, ?_, ?_, ?_, ?_⟩ <;> simp [Cmp.none, noEqFallback, noLtFallback]

/-- the two regenerated operators, read as propositions -/
theorem idEq_iff {a b : Id V} :
    idEq c a b = true ↔ a.digest = b.digest ∧ c.veq a.value b.value = true := by
  simp [idEq, Gen.AnyId.eq]

theorem idLt_iff {a b : Id V} :
    idLt c a b = true ↔
      a.digest < b.digest ∨ c.vlt a.value b.value = true ∧ a.digest = b.digest := by
  simp [idLt, Gen.AnyId.lt]

/-- `operator==` is an equivalence. -/
theorem C18_eq_equivalence (hc : Coherent c) :
    (∀ a, idEq c a a = true) ∧
    (∀ a b, idEq c a b = true → idEq c b a = true) ∧
    (∀ a b d, idEq c a b = true → idEq c b d = true → idEq c a d = true) := by
  refine ⟨fun a => idEq_iff.2 ⟨rfl, hc.eq_refl _⟩, fun a b h => ?_, fun a b d h1 h2 => ?_⟩
  · rw [idEq_iff] at h ⊢
    exact ⟨h.1.symm, hc.eq_symm _ _ h.2⟩
  · rw [idEq_iff] at h1 h2 ⊢
    exact ⟨h1.1.trans h2.1, hc.eq_trans _ _ _ h1.2 h2.2⟩

/-- `operator<` is a strict weak ordering: irreflexive, transitive, … -/
theorem C18_lt_strict (hc : Coherent c) :
    (∀ a, idLt c a a = false) ∧
    (∀ a b d, idLt c a b = true → idLt c b d = true → idLt c a d = true) := by
  simp only [← Bool.not_eq_true, idLt_iff]
  refine ⟨fun a h => ?_, fun a b d h1 h2 => ?_⟩
  · rcases h with h | ⟨h, _⟩
    · exact Nat.lt_irrefl _ h
    · rw [hc.lt_irrefl] at h; cases h
  · rcases h1 with h1 | ⟨h1v, h1d⟩ <;> rcases h2 with h2 | ⟨h2v, h2d⟩
    · exact .inl (Nat.lt_trans h1 h2)
    · exact .inl (h2d ▸ h1)
    · exact .inl (h1d ▸ h2)
    · exact .inr ⟨hc.lt_trans _ _ _ h1v h2v, h1d.trans h2d⟩

/-- … whose incomparability classes are exactly the `==` classes (so an ordered map finds an
    id under an equal id and never under an unequal one). -/
theorem C18_incomparable_iff_eq (hc : Coherent c) (a b : Id V) :
    (idLt c a b = false ∧ idLt c b a = false) ↔ idEq c a b = true := by
  simp only [← Bool.not_eq_true, idLt_iff, idEq_iff, ← hc.incomp]
  by_cases hd : a.digest = b.digest
  · simp [hd]
  · have hne : b.digest ≠ a.digest := fun h => hd h.symm
    simp [hd, hne]
    omega

/-- incomparability is transitive (third strict-weak-order axiom) -/
theorem C18_incomparable_trans (hc : Coherent c) (a b d : Id V)
    (h1 : idLt c a b = false ∧ idLt c b a = false) (h2 : idLt c b d = false ∧ idLt c d b = false) :
    idLt c a d = false ∧ idLt c d a = false := by
  rw [C18_incomparable_iff_eq hc] at h1 h2 ⊢
  exact (C18_eq_equivalence hc).2.2 a b d h1 h2

/-- equal ids hash equally (so a hashed map finds an id under an equal id) -/
theorem C18_eq_hash (h : Nat → Nat) (a b : Id V) (he : idEq c a b = true) :
    idHash h a = idHash h b := by
  rw [idHash, (idEq_iff.1 he).1]; rfl

/-- with a value-storing Storage, colliding digests with different values are different ids -/
theorem C18_collision_distinct (a b : Id V) (hv : c.veq a.value b.value = false) :
    idEq c a b = false := by
  simp [idEq, Gen.AnyId.eq, hv]

/-- without a Storage, ids are equal exactly when their digests are -/
theorem C18_nostorage (a b : Id V) : idEq (Cmp.none V) a b = (a.digest == b.digest) := by
  simp [idEq, Gen.AnyId.eq, Cmp.none, noEqFallback]

/-- the hash really depends on the digest only (regenerated flag) -/
theorem C18_hash_digest_only : hashOfDigestOnly = true := rfl

/-- strings compared as `Nat` codes -/
def natCmp : Cmp Nat := ⟨fun a b => a == b, fun a b => decide (a < b)⟩

theorem natCmp_coherent : Coherent natCmp := by
  constructor <;> intros <;>
    simp only [natCmp, beq_iff_eq, decide_eq_true_eq, decide_eq_false_iff_not] at * <;> omega

/-- Non-vacuity: `natCmp` is a coherent storage (`natCmp_coherent`); two ids with the same digest
    and different values are unequal and ordered one way. -/
example : idEq natCmp ⟨7, 1⟩ ⟨7, 2⟩ = false ∧ idLt natCmp ⟨7, 1⟩ ⟨7, 2⟩ = true ∧
    idLt natCmp ⟨7, 2⟩ ⟨7, 1⟩ = false ∧ idEq natCmp ⟨7, 2⟩ ⟨7, 2⟩ = true := by decide

end Evp.AnyId
