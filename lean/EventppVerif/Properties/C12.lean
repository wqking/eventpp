import EventppVerif.Q.DispAux
/-
  Property C12 — Filters and canContinueInvoking gate every dispatch, synchronous or queued.

  "With MixinFilter, every dispatch - direct or performed by a queue's processing call - first runs
  the filters in the order they were added: each filter receives the arguments as lvalues, its
  modifications are seen by later filters and by all listeners, and the first filter returning false
  stops the remaining filters and all listeners of that dispatch only. … removed filters never run
  again."

  Model: Q/Machine.lean.  `directDispatch` = `nextFilter` (filters over a snapshot of the filter
  list, skipping removed ones; a filter returning `true` rewrites the argument by
  `b.rewrite cur arg` for everything that follows; `false` ends the dispatch) then `nextListener`;
  after each listener has returned the policy `b.cont` (`CanContinueInvoking::canContinueInvoking`)
  is evaluated on the dispatch's argument, `false` ends the dispatch (`C12_canContinue_*`).
  Specification: `dispatchCalls` (Q/DispAux.lean), a pure function.

  The `conditionalFunctor` / `argumentAdapter` utilities are tiny self-contained models at the end.
-/
namespace Evp.Q
open QCfg

/-- no filter (left): the listeners that the `CanContinueInvoking` policy lets run (`policyCut`) are
    called in list order with the current argument -/
theorem C12_spec_nil (listeners : SList) (verdict : Cb → Nat → Bool) (rw : Cb → Nat → Nat)
    (cont : Nat → Bool) (key arg : Nat) :
    dispatchCalls [] listeners verdict rw cont key arg =
      (policyCut cont arg listeners).map (fun e => ⟨.listener, key, e.id, e.cb, arg⟩) := rfl

/-- … all of them if the policy says "continue" for this argument (always so with the default
    policy) … -/
theorem C12_spec_nil_all (listeners : SList) (verdict : Cb → Nat → Bool) (rw : Cb → Nat → Nat)
    (cont : Nat → Bool) (key arg : Nat) (h : cont arg = true) :
    dispatchCalls [] listeners verdict rw cont key arg =
      listeners.map (fun e => ⟨.listener, key, e.id, e.cb, arg⟩) := by
  simp [dispatchCalls, callsFrom, listenerCalls, h]

/-- … and only the first one if it says "stop": the policy is asked after each listener has
    returned, so the first listener always runs -/
theorem C12_spec_nil_stop (listeners : SList) (verdict : Cb → Nat → Bool) (rw : Cb → Nat → Nat)
    (cont : Nat → Bool) (key arg : Nat) (h : cont arg = false) :
    dispatchCalls [] listeners verdict rw cont key arg =
      (listeners.take 1).map (fun e => ⟨.listener, key, e.id, e.cb, arg⟩) := by
  simp [dispatchCalls, callsFrom, listenerCalls, h]

/-- the first filter is called with the current argument; if it returns `true` the dispatch goes on
    with the remaining filters and the argument as rewritten by it -/
theorem C12_spec_pass (f : Entry) (fs listeners : SList) (verdict : Cb → Nat → Bool)
    (rw : Cb → Nat → Nat) (cont : Nat → Bool) (key arg : Nat) (h : verdict f.cb arg = true) :
    dispatchCalls (f :: fs) listeners verdict rw cont key arg =
      ⟨.filter, key, f.id, f.cb, arg⟩ ::
        dispatchCalls fs listeners verdict rw cont key (rw f.cb arg) := by
  simp [dispatchCalls, callsFrom, h]

/-- … if it returns `false` nothing else of this dispatch is called -/
theorem C12_spec_block (f : Entry) (fs listeners : SList) (verdict : Cb → Nat → Bool)
    (rw : Cb → Nat → Nat) (cont : Nat → Bool) (key arg : Nat) (h : verdict f.cb arg = false) :
    dispatchCalls (f :: fs) listeners verdict rw cont key arg =
      [⟨.filter, key, f.id, f.cb, arg⟩] := by
  simp [dispatchCalls, callsFrom, h]

/-- **C12 (a dispatch is `dispatchCalls`).**  Let the filters and listeners return immediately (a
    filter's verdict being a function `verdict` of callback and argument).  From any configuration
    that is about to execute `dispatch key arg` there is a number of steps after which the program
    continues (`k .unit`) on the same stack, the listener lists, the filter list and the queue are
    unchanged, and the trace has gained exactly the calls `dispatchCalls …` — the filters in the
    order they were added, each seeing the argument as modified by the earlier ones, stopping at the
    first `false`; otherwise the listeners, with the final argument `a`: all of them if the
    `CanContinueInvoking` policy `b.cont a` holds, only the first one if not — followed by the
    result of the command.  (The trace is kept newest first, hence the `reverse`.) -/
theorem C12_dispatch_flat (b : QBeh) (verdict : Cb → Nat → Bool) (hb : Flat b verdict) (c : QCfg)
    (key arg : Nat) (k : QRes → QProg) (rest : List QFrame)
    (hst : c.stack = .prog (.op (.dispatch key arg) k) :: rest) :
    ∃ n, (runN b n c).1.stack = .prog (k .unit) :: rest ∧
      (runN b n c).1.lists = c.lists ∧ (runN b n c).1.filters = c.filters ∧
      (runN b n c).1.queue = c.queue ∧
      (runN b n c).1.trace =
        .res .unit ::
          ((dispatchCalls c.filters (c.lists key) verdict b.rewrite b.cont key arg).map QEv.call).reverse
            ++ c.trace := by
  obtain ⟨n, hn⟩ := dispatch_flat hb c key arg k rest hst
  exact ⟨n, by rw [hn], by rw [hn], by rw [hn], by rw [hn], by rw [hn]⟩

/-- **C12 (a queued event is dispatched by the same function), modes `process`/`processOne`.**
    Examining the head `s` (holding event `e`) of a processing call's `todo` *is*
    `nextFilter … e.key e.arg c.filters …`: the filter phase over the current filter list, then the
    listeners of `e.key` — on top of the processing-call frame. -/
theorem C12_queued_same (b : QBeh) (c : QCfg) (mode : PMode) (hm : mode = .all ∨ mode = .one)
    (s : Slot) (e : QEvent) (rest kept idle : List Slot) (below : List QFrame)
    (hev : s.ev = some e) :
    procNext b c mode (s :: rest) kept idle below =
      nextFilter b c e.key e.arg c.filters (.proc mode (s :: rest) kept idle .disp :: below) := by
  rcases hm with rfl | rfl <;> simp [procNext, hev]

/-- … and so is, for `processIf`, an event whose predicate returned `true` and, for `processUntil`,
    one whose predicate returned `false`. -/
theorem C12_queued_same_pred (b : QBeh) (c : QCfg) (mode : PMode) (v : Bool)
    (hm : (∃ p, mode = .ifp p ∧ v = true) ∨ (∃ p, mode = .untilp p ∧ v = false))
    (s : Slot) (e : QEvent) (rest kept idle : List Slot) (below : List QFrame) (hev : s.ev = some e)
    (hst : c.stack = .prog (.ret v) :: .proc mode (s :: rest) kept idle .pred :: below) :
    step b c = some
      (nextFilter b c e.key e.arg c.filters (.proc mode (s :: rest) kept idle .disp :: below)) := by
  unfold step
  rw [hst]
  rcases hm with ⟨p, rfl, rfl⟩ | ⟨p, rfl, rfl⟩ <;> simp [hev]

/-- … exactly what the machine does for the command `dispatch e.key e.arg` — on top of the waiting
    program. -/
theorem C12_direct_same (b : QBeh) (c : QCfg) (key arg : Nat) (k : QRes → QProg)
    (rest : List QFrame) (hst : c.stack = .prog (.op (.dispatch key arg) k) :: rest) :
    step b c = some (nextFilter b c key arg c.filters (.wait k :: rest)) :=
  step_dispatch hst

/-- … and the two differ in nothing but the frame they return to: `nextFilter` pushes frames and
    extends the trace independently of what is below. -/
theorem C12_same_up_to_below (b : QBeh) (c : QCfg) (key arg : Nat) (snap : List Entry) :
    ∃ fs tr, ∀ below,
      nextFilter b c key arg snap below = { c with trace := tr, stack := fs ++ below } := by
  unfold nextFilter
  split
  · unfold nextListener
    split
    · exact ⟨[.done], c.trace, fun _ => rfl⟩
    · exact ⟨[_, _], _, fun _ => rfl⟩
  · exact ⟨[_, _], _, fun _ => rfl⟩

/-- **C12 (modifications are seen by later filters and by the listeners), any behaviour.**  When
    the running filter `cur` returns `true`, the rest of the dispatch — the remaining filters and
    then the listeners — runs with the argument as rewritten by `cur`. -/
theorem C12_rewrite_propagates (b : QBeh) (c : QCfg) (key arg : Nat) (rest : List Entry) (cur : Cb)
    (below : List QFrame) (hst : c.stack = .prog (.ret true) :: .filt key arg rest cur :: below) :
    step b c = some (nextFilter b c key (b.rewrite cur arg) rest below) :=
  step_filt_true hst

/-- **C12 (a veto stops this dispatch only), any behaviour.**  When the running filter returns
    `false`, the next configuration is "dispatch ended" (`.done`): no further filter and no listener
    of this dispatch is called (the trace is unchanged), and the listener lists, the filter list and
    the queue are untouched. -/
theorem C12_block_only_this (b : QBeh) (c : QCfg) (key arg : Nat) (rest : List Entry) (cur : Cb)
    (below : List QFrame) (hst : c.stack = .prog (.ret false) :: .filt key arg rest cur :: below) :
    ∃ c', step b c = some c' ∧ c'.stack = .done :: below ∧ c'.trace = c.trace ∧
      c'.lists = c.lists ∧ c'.filters = c.filters ∧ c'.queue = c.queue :=
  ⟨_, step_filt_false hst, rfl, rfl, rfl, rfl, rfl⟩

/-- … a vetoed direct dispatch then simply returns to the program that issued it … -/
theorem C12_block_direct (b : QBeh) (c : QCfg) (key arg : Nat) (rest : List Entry) (cur : Cb)
    (k : QRes → QProg) (below : List QFrame)
    (hst : c.stack = .prog (.ret false) :: .filt key arg rest cur :: .wait k :: below) :
    (runN b 2 c).1 = { c with stack := .prog (k .unit) :: below, trace := .res .unit :: c.trace } :=
  (runN_two_done (step_filt_false hst)).trans (endDispatch_wait ..)

/-- … and a vetoed dispatch of a queued event consumes that event and lets the processing call go
    on with the next one (`rest'`). -/
theorem C12_block_queued (b : QBeh) (c : QCfg) (key arg : Nat) (rest : List Entry) (cur : Cb)
    (mode : PMode) (s : Slot) (e : QEvent) (rest' kept idle : List Slot) (below : List QFrame)
    (hev : s.ev = some e)
    (hst : c.stack = .prog (.ret false) :: .filt key arg rest cur ::
      .proc mode (s :: rest') kept idle .disp :: below) :
    (runN b 2 c).1 =
      procNext b ({ c with stack := .done :: .proc mode (s :: rest') kept idle .disp :: below }.push
        (.consumed e.seq 0)) mode rest' kept (idle ++ [{ s with ev := none }]) below :=
  (runN_two_done (step_filt_false hst)).trans (endDispatch_proc _ _ _ _ _ _ _ _ _ hev)

/-! ### `canContinueInvoking`

`CallbackList::operator()` is `forEachIf([&](Callback & cb){ cb(args...); return
CanContinueInvoking::canContinueInvoking(args...); })`: after *each* listener has returned the
policy is asked, with the arguments the listeners got (as rewritten by the filters); `false` ends the
dispatch — normally: a direct dispatch returns to its caller, a queued event counts as consumed.
Model: `b.cont`, evaluated by `QCfg.step` on the `.iter` frame's argument.  The filters run before
the listeners and are not affected. -/

/-- **C12 (canContinueInvoking = true: go on), any behaviour.**  When a listener of a dispatch
    returns (whatever it did meanwhile, with any return value `v`) and the policy holds for the
    dispatch's argument, the dispatch continues with the next listener of its snapshot that is
    still in the list — exactly `nextListener`, as without a policy. -/
theorem C12_canContinue_all (b : QBeh) (c : QCfg) (v : Bool) (key arg : Nat) (rest : List Entry)
    (below : List QFrame) (hst : c.stack = .prog (.ret v) :: .iter key arg rest :: below)
    (hc : b.cont arg = true) :
    step b c = some (nextListener b c key arg rest below) :=
  step_iter_ret hst hc

/-- … in particular with the default policy (hypothesis: `b.cont` is constantly `true`) every
    listener return is followed by `nextListener`. -/
theorem C12_canContinue_default (b : QBeh) (hb : ∀ a, b.cont a = true) (c : QCfg) (v : Bool)
    (key arg : Nat) (rest : List Entry) (below : List QFrame)
    (hst : c.stack = .prog (.ret v) :: .iter key arg rest :: below) :
    step b c = some (nextListener b c key arg rest below) :=
  step_iter_ret hst (hb arg)

/-- **C12 (canContinueInvoking = false: stop this dispatch), any behaviour.**  When a listener of a
    dispatch returns and the policy fails for the dispatch's argument, the next configuration is
    "dispatch ended" (`.done` in place of the listener phase frame `.iter key arg rest`, whose
    remaining snapshot `rest` is dropped): no further listener of this dispatch is called (the
    trace is unchanged), and the listener lists, the filter list and the queue are untouched. -/
theorem C12_canContinue_stop (b : QBeh) (c : QCfg) (v : Bool) (key arg : Nat) (rest : List Entry)
    (below : List QFrame) (hst : c.stack = .prog (.ret v) :: .iter key arg rest :: below)
    (hc : b.cont arg = false) :
    ∃ c', step b c = some c' ∧ c'.stack = .done :: below ∧ c'.trace = c.trace ∧
      c'.lists = c.lists ∧ c'.filters = c.filters ∧ c'.queue = c.queue ∧ c'.free = c.free :=
  ⟨_, step_iter_stop hst hc, rfl, rfl, rfl, rfl, rfl, rfl⟩

/-- … a direct dispatch stopped by the policy then simply returns to the program that issued it (the
    dispatch ends normally: result `unit`) … -/
theorem C12_canContinue_stop_direct (b : QBeh) (c : QCfg) (v : Bool) (key arg : Nat)
    (rest : List Entry) (k : QRes → QProg) (below : List QFrame)
    (hst : c.stack = .prog (.ret v) :: .iter key arg rest :: .wait k :: below)
    (hc : b.cont arg = false) :
    (runN b 2 c).1 = { c with stack := .prog (k .unit) :: below, trace := .res .unit :: c.trace } :=
  (runN_two_done (step_iter_stop hst hc)).trans (endDispatch_wait ..)

/-- … and a dispatch of a queued event stopped by the policy consumes that event exactly as a
    dispatch that ran all listeners does: the ghost event `consumed e.seq 0` is recorded, the slot
    is cleared and joins the slots to be recycled (`idle`), and the processing call goes on with
    the next event (`rest'`). -/
theorem C12_canContinue_stop_queued (b : QBeh) (c : QCfg) (v : Bool) (key arg : Nat)
    (rest : List Entry) (mode : PMode) (s : Slot) (e : QEvent) (rest' kept idle : List Slot)
    (below : List QFrame) (hev : s.ev = some e)
    (hst : c.stack = .prog (.ret v) :: .iter key arg rest ::
      .proc mode (s :: rest') kept idle .disp :: below)
    (hc : b.cont arg = false) :
    (runN b 2 c).1 =
      procNext b ({ c with stack := .done :: .proc mode (s :: rest') kept idle .disp :: below }.push
        (.consumed e.seq 0)) mode rest' kept (idle ++ [{ s with ev := none }]) below :=
  (runN_two_done (step_iter_stop hst hc)).trans (endDispatch_proc _ _ _ _ _ _ _ _ _ hev)

/-- … so the trace continues with `consumed e.seq 0` directly on top of what it was when the last
    listener returned: nothing of the stopped dispatch comes in between. -/
theorem C12_canContinue_stop_consumed (b : QBeh) (c : QCfg) (v : Bool) (key arg : Nat)
    (rest : List Entry) (mode : PMode) (s : Slot) (e : QEvent) (rest' kept idle : List Slot)
    (below : List QFrame) (hev : s.ev = some e)
    (hst : c.stack = .prog (.ret v) :: .iter key arg rest ::
      .proc mode (s :: rest') kept idle .disp :: below)
    (hc : b.cont arg = false) :
    ∃ new, (runN b 2 c).1.trace = new ++ .consumed e.seq 0 :: c.trace := by
  rw [C12_canContinue_stop_queued b c v key arg rest mode s e rest' kept idle below hev hst hc]
  obtain ⟨new, hn, -⟩ := procNext_newCalls b
    ({ c with stack := .done :: .proc mode (s :: rest') kept idle .disp :: below }.push
      (.consumed e.seq 0)) mode rest' kept (idle ++ [{ s with ev := none }]) below
  exact ⟨new, hn⟩

/-- **C12 (a queued event is `dispatchCalls`, too), `process`/`processOne`, flat behaviours.**
    Examining the head `s` (holding event `e`) of a processing call's `todo` records exactly the
    calls `dispatchCalls … e.key e.arg` of a direct dispatch (filters, then — with the final
    argument `a` — all listeners if `b.cont a`, only the first if not), then `consumed e.seq 0`,
    and goes on with the rest of `todo`, the cleared slot having joined `idle` — whether the
    listeners ran to the end, a filter vetoed or the policy stopped them. -/
theorem C12_canContinue_queued (b : QBeh) (verdict : Cb → Nat → Bool) (hb : Flat b verdict)
    (c : QCfg) (mode : PMode) (hm : mode = .all ∨ mode = .one) (s : Slot) (e : QEvent)
    (rest' kept idle : List Slot) (below : List QFrame) (hev : s.ev = some e) :
    ∃ n, (runN b n (procNext b c mode (s :: rest') kept idle below)).1 =
      procNext b
        { c with
          stack := .done :: .proc mode (s :: rest') kept idle .disp :: below
          trace := .consumed e.seq 0 ::
            ((dispatchCalls c.filters (c.lists e.key) verdict b.rewrite b.cont e.key e.arg).map
              QEv.call).reverse ++ c.trace }
        mode rest' kept (idle ++ [{ s with ev := none }]) below := by
  rw [C12_queued_same b c mode hm s e rest' kept idle below hev]
  exact (run_dispatch hb c e.key e.arg _).trans (.of_eq (endDispatch_proc _ _ _ _ _ _ _ _ _ hev))

/-- **C12 (`process` / `processOne` of one queued event, flat behaviours).**  `processOne` with the
    event `e` at the head of the queue, or `process` with `e` the only queued event: after a number
    of steps the program continues with result `true`, the trace has gained the calls
    `dispatchCalls … e.key e.arg` — the same as for `dispatch e.key e.arg`, policy included — then
    `consumed e.seq 0` and the result; the event has left the queue, its slot is back in the free
    list, empty; the guard counter, the listener lists and the filters are unchanged.  This holds
    whether or not the policy let all listeners run. -/
theorem C12_canContinue_process_flat (b : QBeh) (verdict : Cb → Nat → Bool) (hb : Flat b verdict)
    (c : QCfg) (cmd : QCmd) (k : QRes → QProg) (rest : List QFrame) (s : Slot) (e : QEvent)
    (q' : List Slot) (hcmd : (cmd = .process ∧ q' = []) ∨ cmd = .processOne)
    (hst : c.stack = .prog (.op cmd k) :: rest) (hq : c.queue = s :: q') (hev : s.ev = some e) :
    ∃ n, (runN b n c).1.stack = .prog (k (.bool true)) :: rest ∧
      (runN b n c).1.lists = c.lists ∧ (runN b n c).1.filters = c.filters ∧
      (runN b n c).1.queue = q' ∧
      (runN b n c).1.free = settle c.ordered (c.free ++ [{ s with ev := none }]) ∧
      (runN b n c).1.ec = c.ec ∧
      (runN b n c).1.trace =
        .res (.bool true) :: .consumed e.seq 0 ::
          ((dispatchCalls c.filters (c.lists e.key) verdict b.rewrite b.cont e.key e.arg).map
            QEv.call).reverse ++ c.trace := by
  -- both commands start a processing call that takes `[s]` and leaves `q'`
  obtain ⟨mode, hm, hs⟩ : ∃ mode, (mode = .all ∨ mode = .one) ∧
      step b c = some (procNext b { c with queue := q', ec := c.ec + 1 } mode [s] [] []
        (.wait k :: rest)) := by
    rcases hcmd with ⟨rfl, rfl⟩ | rfl
    · exact ⟨.all, .inl rfl, by unfold step; rw [hst]; simp only [startProc, hq]; rfl⟩
    · exact ⟨.one, .inr rfl, by unfold step; rw [hst]; simp only [startProc, hq]; rfl⟩
  obtain ⟨n, hn⟩ := Steps.head hs
    (C12_canContinue_queued b verdict hb { c with queue := q', ec := c.ec + 1 } mode hm s e [] [] []
      (.wait k :: rest) hev)
  refine ⟨n, ?_⟩
  rw [hn]
  rcases hm with rfl | rfl <;> exact ⟨rfl, rfl, rfl, rfl, rfl, rfl, rfl⟩

/-- **C12 (removed filters never run again): a removed filter is skipped.**  If the next filter of
    the snapshot is no longer in the filter list (it was removed, e.g. by an earlier filter or
    listener, or by itself), `nextFilter` passes over it without calling it. -/
theorem C12_removed_filter_skipped (b : QBeh) (c : QCfg) (key arg : Nat) (e : Entry)
    (es : List Entry) (below : List QFrame) (hp : c.filters.present e.id = false) :
    nextFilter b c key arg (e :: es) below = nextFilter b c key arg es below :=
  nextFilter_cons_absent b c key arg e es below hp

/-- **C12 (removed filters never run again): every call is of a current filter.**  In every step of
    every run, with every behaviour: every filter call recorded by the step is of a handle that is
    in the filter list at that moment, and every listener call is of a handle that is in the list
    of the call's event at that moment (`CallOK`). -/
theorem C12_calls_are_current (b : QBeh) (c c' : QCfg) (hs : step b c = some c') :
    ∃ new, c'.trace = new ++ c.trace ∧
      ∀ call, QEv.call call ∈ new →
        (call.kind = .filter → c.filters.present call.h = true) ∧
        (call.kind = .listener → (c.lists call.key).present call.h = true) := by
  obtain ⟨new, hn, hc⟩ := step_newCalls hs
  exact ⟨new, hn, fun call hm => ⟨(hc call hm).filter, (hc call hm).listener⟩⟩

/-! ### `conditionalFunctor` and `argumentAdapter` (utilities) — self-contained models

These two laws are close to the definitions: the utilities are one-line wrappers, and the models
below are those lines. -/

/-- `conditionalFunctor(f, cond)`: calls `f` iff `cond` accepts the arguments. `none` = not called. -/
def conditionalFunctor {α β : Type} (cond : α → Bool) (f : α → β) (args : α) : Option β :=
  if cond args then some (f args) else none

/-- `argumentAdapter<Sig>(f)`: casts the arguments, then calls `f`. -/
def argumentAdapter {α α' β : Type} (cast : α → α') (f : α' → β) (args : α) : β :=
  f (cast args)

/-- the wrapped callable is called iff the condition holds … -/
theorem C12_conditional_called {α β : Type} (cond : α → Bool) (f : α → β) (args : α) :
    (conditionalFunctor cond f args).isSome = cond args := by
  unfold conditionalFunctor; split <;> simp_all

/-- … and then with the very same arguments (the result is `f args`). -/
theorem C12_conditional {α β : Type} (cond : α → Bool) (f : α → β) (args : α) (r : β) :
    conditionalFunctor cond f args = some r ↔ cond args = true ∧ f args = r := by
  unfold conditionalFunctor; split <;> simp_all

/-- the adapted callable is called exactly once, with the cast arguments -/
theorem C12_adapter {α α' β : Type} (cast : α → α') (f : α' → β) (args : α) :
    argumentAdapter cast f args = f (cast args) := rfl

/-- adapting composes: an adapter around an adapter is the adapter of the composed cast -/
theorem C12_adapter_comp {α α' α'' β : Type} (cast : α → α') (cast' : α' → α'') (f : α'' → β) :
    argumentAdapter cast (argumentAdapter cast' f) = argumentAdapter (cast' ∘ cast) f := rfl

namespace C12ex

def seqP : List QCmd → QProg
  | [] => .ret true
  | c :: r => .op c (fun _ => seqP r)

def verdict (cb : Cb) (arg : Nat) : Bool := if cb = 101 then decide (arg ≤ 10) else true

/-- filter 100 adds 5 to the argument and passes; filter 101 vetoes when the argument exceeds 10;
    listener 7 returns -/
def beh : QBeh where
  run := fun call _ => match call.kind with
    | .filter => .ret (verdict call.cb call.arg)
    | _ => .ret true
  rewrite := fun cb a => if cb = 100 then a + 5 else a

theorem beh_flat : Flat beh verdict :=
  ⟨fun call _ h => by simp [beh, h], fun call _ h => ⟨true, by simp [beh, h]⟩⟩

def prog : QProg :=
  seqP [.addFilter 100, .addFilter 101, .listen 0 7, .dispatch 0 3, .dispatch 0 7]

def c0 : QCfg := { stack := [.prog prog] }

def calls (tr : List QEv) : List QCall := tr.reverse.filterMap (fun | .call c => some c | _ => none)

/-- dispatch 3: filter 100 sees 3, filter 101 sees 8 and passes, the listener sees 8;
    dispatch 7: filter 100 sees 7, filter 101 sees 12 and vetoes, the listener is not called. -/
example : calls (runN beh 40 c0).1.trace =
    [⟨.filter, 0, 0, 100, 3⟩, ⟨.filter, 0, 1, 101, 8⟩, ⟨.listener, 0, 2, 7, 8⟩,
     ⟨.filter, 0, 0, 100, 7⟩, ⟨.filter, 0, 1, 101, 12⟩] ∧ (runN beh 40 c0).2 = true := by
  decide +kernel

/-- the specification says the same -/
example : dispatchCalls [⟨0, 100⟩, ⟨1, 101⟩] [⟨2, 7⟩] verdict beh.rewrite beh.cont 0 3 =
      [⟨.filter, 0, 0, 100, 3⟩, ⟨.filter, 0, 1, 101, 8⟩, ⟨.listener, 0, 2, 7, 8⟩] ∧
    dispatchCalls [⟨0, 100⟩, ⟨1, 101⟩] [⟨2, 7⟩] verdict beh.rewrite beh.cont 0 7 =
      [⟨.filter, 0, 0, 100, 7⟩, ⟨.filter, 0, 1, 101, 12⟩] := by
  decide +kernel

/-- the hypotheses of `C12_dispatch_flat` hold at step 3 of this run -/
example : ∃ k rest, (runN beh 3 c0).1.stack = .prog (.op (.dispatch 0 3) k) :: rest ∧
    (runN beh 3 c0).1.filters = [⟨0, 100⟩, ⟨1, 101⟩] := ⟨_, _, rfl, rfl⟩

/-- queued: the same gate.  The vetoed event (argument 7) is consumed without reaching the listener
    and the processing call goes on with the next event (argument 1 → 6). -/
example : calls (runN beh 60
      { stack := [.prog (seqP [.addFilter 100, .addFilter 101, .listen 0 7,
                               .enqueue 0 3, .enqueue 0 7, .enqueue 0 1, .process])] }).1.trace =
    [⟨.filter, 0, 0, 100, 3⟩, ⟨.filter, 0, 1, 101, 8⟩, ⟨.listener, 0, 2, 7, 8⟩,
     ⟨.filter, 0, 0, 100, 7⟩, ⟨.filter, 0, 1, 101, 12⟩,
     ⟨.filter, 0, 0, 100, 1⟩, ⟨.filter, 0, 1, 101, 6⟩, ⟨.listener, 0, 2, 7, 6⟩] := by
  decide +kernel

/-- a removed filter never runs again: filter 101 (handle 1) is removed between the dispatches, so
    the second dispatch (argument 7 → 12) now reaches the listener -/
example : calls (runN beh 60
      { stack := [.prog (seqP [.addFilter 100, .addFilter 101, .listen 0 7,
                               .dispatch 0 7, .removeFilter 1, .dispatch 0 7])] }).1.trace =
    [⟨.filter, 0, 0, 100, 7⟩, ⟨.filter, 0, 1, 101, 12⟩,
     ⟨.filter, 0, 0, 100, 7⟩, ⟨.listener, 0, 2, 7, 12⟩] := by
  decide +kernel

/-- listeners 5, 6, 7 return; filter 100 adds 1 to the argument and passes;
    policy: continue iff the argument (as the listeners got it) is odd -/
def behC : QBeh where
  run := fun _ _ => .ret true
  rewrite := fun cb a => if cb = 100 then a + 1 else a
  cont := fun a => a % 2 != 0

theorem behC_flat : Flat behC (fun _ _ => true) :=
  ⟨fun _ _ _ => rfl, fun _ _ _ => ⟨true, rfl⟩⟩

def progC : QProg :=
  seqP [.listen 0 5, .listen 0 6, .listen 0 7, .dispatch 0 4, .dispatch 0 3,
        .enqueue 0 4, .enqueue 0 3, .process]

def c0C : QCfg := { stack := [.prog progC] }

/-- direct: argument 4 (even → stop) reaches the first listener only, argument 3 all three;
    queued: the same, in queue order -/
example : calls (runN behC 80 c0C).1.trace =
    [⟨.listener, 0, 0, 5, 4⟩,
     ⟨.listener, 0, 0, 5, 3⟩, ⟨.listener, 0, 1, 6, 3⟩, ⟨.listener, 0, 2, 7, 3⟩,
     ⟨.listener, 0, 0, 5, 4⟩,
     ⟨.listener, 0, 0, 5, 3⟩, ⟨.listener, 0, 1, 6, 3⟩, ⟨.listener, 0, 2, 7, 3⟩] ∧
    (runN behC 80 c0C).2 = true := by
  decide +kernel

/-- the queued event whose listeners the policy stopped is consumed like the other one: both
    `consumed` ghost events are recorded (seq 0 right after its single listener call), the queue is
    empty, both slots are back in the free list, empty, and the guard counter is back to 0 -/
example : (runN behC 80 c0C).1.trace.filterMap (fun
      | .consumed s h => some (s, h, 0) | .call q => some (q.cb, q.arg, 1) | _ => none) =
      [(1, 0, 0), (7, 3, 1), (6, 3, 1), (5, 3, 1), (0, 0, 0), (5, 4, 1),
       (7, 3, 1), (6, 3, 1), (5, 3, 1), (5, 4, 1)] ∧
    (runN behC 80 c0C).1.queue = [] ∧ (runN behC 80 c0C).1.free = [⟨0, none⟩, ⟨1, none⟩] ∧
    (runN behC 80 c0C).1.ec = 0 := by
  decide +kernel

/-- the specification says the same -/
example : dispatchCalls [] [⟨0, 5⟩, ⟨1, 6⟩, ⟨2, 7⟩] (fun _ _ => true) behC.rewrite behC.cont 0 4 =
      [⟨.listener, 0, 0, 5, 4⟩] ∧
    dispatchCalls [] [⟨0, 5⟩, ⟨1, 6⟩, ⟨2, 7⟩] (fun _ _ => true) behC.rewrite behC.cont 0 3 =
      [⟨.listener, 0, 0, 5, 3⟩, ⟨.listener, 0, 1, 6, 3⟩, ⟨.listener, 0, 2, 7, 3⟩] ∧
    dispatchCalls [] [] (fun _ _ => true) behC.rewrite behC.cont 0 4 = [] := by
  decide +kernel

/-- the hypotheses of `C12_canContinue_stop` / `C12_canContinue_stop_direct` hold at step 4 of this
    run (the first listener has returned from `dispatch 0 4`, two listeners are still to come, the
    policy says stop) and those of `C12_canContinue_all` at step 7 (`dispatch 0 3`) -/
example : (∃ k below, (runN behC 4 c0C).1.stack =
      .prog (.ret true) :: .iter 0 4 [⟨1, 6⟩, ⟨2, 7⟩] :: .wait k :: below) ∧ behC.cont 4 = false ∧
    (∃ below, (runN behC 7 c0C).1.stack =
      .prog (.ret true) :: .iter 0 3 [⟨1, 6⟩, ⟨2, 7⟩] :: below) ∧ behC.cont 3 = true :=
  ⟨⟨_, _, rfl⟩, rfl, ⟨_, rfl⟩, rfl⟩

/-- the hypotheses of `C12_canContinue_stop_queued` hold at step 14: the first listener has returned
    for the queued event (seq 0, argument 4) of slot 0, under the processing call's frame -/
example : ∃ below, (runN behC 14 c0C).1.stack =
    .prog (.ret true) :: .iter 0 4 [⟨1, 6⟩, ⟨2, 7⟩] ::
      .proc .all [⟨0, some ⟨0, 0, 4⟩⟩, ⟨1, some ⟨1, 0, 3⟩⟩] [] [] .disp :: below :=
  ⟨_, rfl⟩

/-- the policy sees the argument as rewritten by the filters: filter 100 turns 3 into 4, so the
    dispatch of 3 now stops after the first listener, and the dispatch of 4 (→ 5) reaches all -/
example : calls (runN behC 80
      { stack := [.prog (seqP [.addFilter 100, .listen 0 5, .listen 0 6, .listen 0 7,
                               .dispatch 0 3, .enqueue 0 4, .processOne])] }).1.trace =
    [⟨.filter, 0, 0, 100, 3⟩, ⟨.listener, 0, 1, 5, 4⟩,
     ⟨.filter, 0, 0, 100, 4⟩, ⟨.listener, 0, 1, 5, 5⟩, ⟨.listener, 0, 2, 6, 5⟩,
     ⟨.listener, 0, 3, 7, 5⟩] := by
  decide +kernel

/-- re-entrant: listener 5 removes itself and appends listener 8 on its first call.  With argument
    4 the policy stops the dispatch after listener 5 all the same (6, 7, 8 are not called); the
    second dispatch (argument 3) then runs 6, 7, 8. -/
def behR : QBeh where
  run := fun call nth =>
    if call.cb = 5 ∧ nth = 0 then .op (.unlisten 0 call.h) (fun _ => .op (.listen 0 8) (fun _ => .ret true))
    else .ret true
  rewrite := fun _ a => a
  cont := fun a => a % 2 != 0

example : calls (runN behR 80
      { stack := [.prog (seqP [.listen 0 5, .listen 0 6, .listen 0 7,
                               .dispatch 0 4, .dispatch 0 3])] }).1.trace =
    [⟨.listener, 0, 0, 5, 4⟩,
     ⟨.listener, 0, 1, 6, 3⟩, ⟨.listener, 0, 2, 7, 3⟩, ⟨.listener, 0, 3, 8, 3⟩] := by
  decide +kernel

example : conditionalFunctor (fun a : Nat => decide (a > 2)) (· + 1) 5 = some 6 ∧
    conditionalFunctor (fun a : Nat => decide (a > 2)) (· + 1) 1 = none ∧
    argumentAdapter (fun a : Nat => (a, a)) (fun p : Nat × Nat => p.1 + p.2) 4 = 8 := by
  decide

end C12ex
end Evp.Q
