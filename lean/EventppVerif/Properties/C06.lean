/-
  Property C06 — "Concurrent producers and consumers never lose or duplicate an event".

  "For any interleaving of threads that enqueue and threads that call process, processOne,
   processIf, processUntil, takeEvent, peekEvent or clearEvents on one queue, no event is dispatched
   or taken more than once and none disappears: once the producers are done and the queue has been
   drained, the events dispatched, taken and cleared are together exactly the events enqueued, each
   with its payload intact.  Events enqueued by one thread and consumed by one thread are consumed
   in the order they were enqueued, and no call deadlocks."

  Model: Conc/Queue.lean — any number of threads, each running an arbitrary list of calls, one
  micro-step per unprotected shared access; events are ghost ids (the id stands for the payload: the
  model never copies or rebuilds an event, it only moves ids between `queue`, the local lists of a
  processing call and `consumed`).

  Every theorem quantifies over EVERY family of programs `progs` (any number of threads), both
  values of the `dqnLocked` flag and EVERY schedule (`ReachF progs flag s`; `Reach = ReachF · true`).

  Conservation, exactly-once, nothing-lost, drained, mutex and progress hold for every family of programs, also with
  `processIf` and `processUntil` (modes 4/5 of the processing pcs: dispatch the events in front of the first one the
  predicate stops at, put that one and everything behind it back IN FRONT of the queue, notify, `--ec`).
  Order: `C06_order` is the statement for ANY number of concurrent
  consumers and needs programs without put-back (`NoIf`: neither `processIf` nor `processUntil`);
  `C06_order_single_consumer` is the statement for programs WITH `processUntil` and one consuming
  thread — with two consumers it is false for the code itself
  (`C06_processUntil_two_consumers_out_of_order`).
-/
import EventppVerif.Conc.QueueInvB
import EventppVerif.Conc.QueueInvC
import EventppVerif.Conc.QueueProgress

namespace Evp.Conc

section
variable {progs : List (List Call)} {flag : Bool} {s : State}

/-- **C06 (conservation).** In every reachable state the pending events, the events held locally by
    running processing calls and the consumed events are together exactly the ids handed out so
    far, each once; and ids are handed out in splice-in order. -/
theorem C06_conservation (h : ReachF progs flag s) :
    (s.queue ++ inflight s ++ consumedIds s).Perm (List.range s.nextEv) ∧
    enqueuedIds s = List.range s.nextEv := by
  refine ⟨?_, h.enq⟩
  rw [List.perm_iff_count]
  intro a
  have := h.cons a
  simp only [List.count_append, inflight, consumedIds]
  omega

/-- the same for `Reach` (the repaired code, `dqnLocked = true`) -/
theorem C06_conservation_reach (h : Reach progs s) :
    (s.queue ++ inflight s ++ consumedIds s).Perm (List.range s.nextEv) ∧
    enqueuedIds s = List.range s.nextEv :=
  C06_conservation h.reachF

/-- **C06 (no duplication).** No id occurs twice among pending, in-flight and consumed events. -/
theorem C06_no_dup (h : ReachF progs flag s) : (s.queue ++ inflight s ++ consumedIds s).Nodup :=
  (C06_conservation h).1.nodup_iff.mpr List.nodup_range

/-- no event is dispatched, taken or cleared more than once -/
theorem C06_consumed_once (h : ReachF progs flag s) : (consumedIds s).Nodup :=
  (List.nodup_append.mp (C06_no_dup h)).2.1

/-- no event is both consumed and still pending (in the queue or in a processing call's lists),
    and no event is both in the queue and in a processing call's lists -/
theorem C06_pending_not_consumed (h : ReachF progs flag s) :
    (∀ e ∈ s.queue, e ∉ consumedIds s) ∧ (∀ e ∈ inflight s, e ∉ consumedIds s) ∧
    (∀ e ∈ s.queue, e ∉ inflight s) := by
  have h1 := List.nodup_append.mp (C06_no_dup h)
  have h2 := List.nodup_append.mp h1.1
  refine ⟨fun e he hc => h1.2.2 e (List.mem_append_left _ he) e hc rfl,
    fun e he hc => h1.2.2 e (List.mem_append_right _ he) e hc rfl,
    fun e he hi => h2.2.2 e he e hi rfl⟩

/-- **C06 (nothing disappears).** Every event ever enqueued is pending, in flight, or consumed. -/
theorem C06_none_lost (h : ReachF progs flag s) :
    ∀ e ∈ enqueuedIds s, e ∈ s.queue ∨ e ∈ inflight s ∨ e ∈ consumedIds s := by
  intro e he
  rw [(C06_conservation h).2, List.mem_range] at he
  exact h.cons.mem_iff.mpr he

/-- and everything consumed was enqueued -/
theorem C06_consumed_was_enqueued (h : ReachF progs flag s) : ∀ e ∈ consumedIds s, e ∈ enqueuedIds s := by
  intro e he
  rw [(C06_conservation h).2]
  exact (C06_conservation h).1.mem_iff.mp (List.mem_append_right _ he)

/-- **C06 (drained).** Once every thread has finished its program and the queue is empty, the
    events dispatched, taken and cleared are together exactly the events enqueued. -/
theorem C06_drained (h : ReachF progs flag s) (hfin : ∀ th ∈ s.threads, finished th = true)
    (hq : s.queue = []) : (consumedIds s).Perm (enqueuedIds s) := by
  obtain ⟨h1, h2⟩ := C06_conservation h
  have hi : inflight s = [] := List.flatMap_eq_nil_iff.mpr fun th hth => by rw [finished_pc (hfin th hth)]; rfl
  rw [hq, hi] at h1
  rw [h2]
  simpa using h1

/-- ids of the events spliced in by ONE producer `p` are increasing in splice-in order (ids are
    handed out in splice-in order), for every family of programs -/
theorem C06_order_producer (h : ReachF progs flag s) (p : Tid) :
    ((s.enqueued.filter (·.2 == p)).map (·.1)).Pairwise (· < ·) := by
  have h1 : (s.enqueued.map (·.1)).Pairwise (· < ·) := by
    rw [show s.enqueued.map (·.1) = List.range s.nextEv from h.enq]; exact List.pairwise_lt_range
  exact List.Pairwise.sublist (List.Sublist.map _ List.filter_sublist) h1

/-- **C06 (order).** Without `processIf` and without `processUntil` (`NoIf`; non-selective consumers:
    nothing is put back; for programs with `processUntil` see `C06_order_single_consumer`):
    * the queue is strictly increasing, and everything that has left it (in flight or consumed) is
      smaller than everything still in it;
    * each thread's local list is strictly increasing, smaller than the whole queue and larger than
      everything that thread consumed before;
    * the events consumed by any ONE thread `t` appear in `consumed` in increasing id order.
    Since ids are handed out in splice-in order (`C06_conservation`, `C06_order_producer`), the last
    item says: the events consumed by one thread are consumed in the order they were enqueued — in
    particular those of any single producer.  This holds for EVERY thread, also when several
    threads consume concurrently (no "only consumer" hypothesis is needed). -/
theorem C06_order (hno : NoIf progs) (h : ReachF progs flag s) :
    s.queue.Pairwise (· < ·) ∧
    (∀ x, x ∈ inflight s ∨ x ∈ consumedIds s → ∀ y ∈ s.queue, x < y) ∧
    (∀ u thu, getT s u = some thu →
      (inflightOf thu.pc).Pairwise (· < ·) ∧
      (∀ x ∈ inflightOf thu.pc, ∀ y ∈ s.queue, x < y) ∧
      (∀ x ∈ (s.consumed.filter (·.2.2 == u)).map (·.1), ∀ y ∈ inflightOf thu.pc, x < y)) ∧
    (∀ t, ((s.consumed.filter (·.2.2 == t)).map (·.1)).Pairwise (· < ·)) := by
  -- the queue is the last part of every thread's chain: for the first clause any thread will do
  refine ⟨(List.pairwise_append.mp (h.ord hno 0).pairwise).2.1, fun x hx => ?_, fun u thu hu => ?_, fun t => ?_⟩
  · obtain ⟨u, hu⟩ := exists_mem_chain hx
    exact (List.pairwise_append.mp (h.ord hno u).pairwise).2.2 x hu
  · have ho := (h.ord hno u).pairwise
    rw [chain, locOf_eq hu, List.pairwise_append, List.pairwise_append] at ho
    obtain ⟨⟨-, hloc, hcl⟩, -, hlq⟩ := ho
    exact ⟨hloc, fun x hx => hlq x (List.mem_append_right _ hx), hcl⟩
  · exact (List.pairwise_append.mp (List.pairwise_append.mp (h.ord hno t).pairwise).1).1

theorem C06_order_consumer (hno : NoIf progs) (h : ReachF progs flag s) (t : Tid) :
    ((s.consumed.filter (·.2.2 == t)).map (·.1)).Pairwise (· < ·) :=
  (C06_order hno h).2.2.2 t

/-- **C06 (order, single consumer, `processUntil` allowed).** Thread `c` is the only thread that
    removes events (`process`, `processOne`, `processUntil`, `takeEvent`, `clearEvents` — no
    `processIf`); any number of other threads enqueue, peek, call `emptyQueue`, wait, use
    DisableQueueNotify.  Then in every reachable state
    * every consumed event was consumed by `c`;
    * the consumed ids in consumption order, followed by `c`'s local list, followed by the queue, form
      ONE strictly increasing list.
    Since ids are handed out in splice-in order (`C06_conservation`) this says: the events are
    dispatched / taken / cleared in exactly the order they were enqueued — in particular those of
    each single producer (`C06_order_producer`) —, what `c` holds locally is older than everything
    in the queue, and `processUntil`'s put-back re-establishes the enqueue order of the queue. -/
theorem C06_order_single_consumer {c : Tid} (hsc : SingleConsumer progs c) (h : ReachF progs flag s) :
    (∀ x ∈ s.consumed, x.2.2 = c) ∧
    (consumedIds s ++ s.queue).Pairwise (· < ·) ∧
    (∀ thc, getT s c = some thc → (consumedIds s ++ inflightOf thc.pc ++ s.queue).Pairwise (· < ·)) := by
  obtain ⟨hT, ho⟩ := h.scOrder hsc
  have ho := ho.pairwise
  rw [chain, consumedByL_all hT] at ho
  refine ⟨hT, ho.sublist ((List.sublist_append_left _ _).append (List.Sublist.refl _)), fun thc hc => ?_⟩
  rw [locOf_eq hc] at ho
  exact ho

/-- … in particular the whole consumption sequence is in enqueue order, and the queue is in enqueue
    order and entirely younger than everything consumed -/
theorem C06_order_single_consumer_consumed {c : Tid} (hsc : SingleConsumer progs c) (h : ReachF progs flag s) :
    (consumedIds s).Pairwise (· < ·) ∧ s.queue.Pairwise (· < ·) ∧
    (∀ x ∈ consumedIds s, ∀ y ∈ s.queue, x < y) ∧
    ∀ t, ((s.consumed.filter (·.2.2 == t)).map (·.1)).Pairwise (· < ·) := by
  have h1 := List.pairwise_append.mp (C06_order_single_consumer hsc h).2.1
  refine ⟨h1.1, h1.2.1, h1.2.2, fun t => ?_⟩
  exact List.Pairwise.sublist (List.Sublist.map _ List.filter_sublist) h1.1

/-- In every family of programs the `kept` list of a processing call that is not a `processIf`
    (modes 0, 1, 4, 5) is empty: `processUntil` never declines an event and carries on, it stops. -/
theorem C06_processUntil_kept_nil (h : ReachF progs flag s) {t : Tid} {th : Thread} {m : Nat}
    {todo kept : List Nat} {any : Bool} (ht : getT s t = some th) (hpc : th.pc = .procLoop m todo kept any)
    (hm : m ≠ 2 ∧ m ≠ 3) : kept = [] := by
  have := h.kept t th ht
  rw [hpc] at this
  exact this hm

/-- **C06 (`processUntil` puts back in front).** For EVERY family of programs: thread `t` is inside a
    `processUntil` (mode 4 / 5) whose predicate says stop at the head `e` of what is left of the events
    it swapped out (`e :: r`, a suffix of the queue as it was at the swap).  Then
    * its next micro-step (the predicate call) consumes nothing and leaves the queue alone;
    * however the OTHER threads are scheduled after that (`others`: any schedule without steps of
      `t` — enqueues, other consumers, anything), `t` still holds exactly `e :: r`;
    * and whenever `queueListMutex` is free, `t`'s put-back step is enabled and yields
      `queue = e :: r ++ (the queue at that moment)`: the events `processUntil` did not consume return
      to the FRONT of the queue, in their original order, ahead of everything spliced in meanwhile;
      nothing is consumed by that step and `t` holds no event afterwards. -/
theorem C06_processUntil_putback_front (h : ReachF progs flag s) {t : Tid} {th : Thread} {m e : Nat}
    {r kept : List Nat} {any : Bool} (ht : getT s t = some th)
    (hpc : th.pc = .procLoop m (e :: r) kept any) (hm : m = 4 ∨ m = 5) (hstop : stopPred m e = true) :
    ∃ s1, (∀ ch, step s t ch = some s1) ∧ s1.queue = s.queue ∧ s1.consumed = s.consumed ∧
      ∀ others : List (Tid × Nat), (∀ x ∈ others, x.1 ≠ t) →
        getT (exec s1 others) t = some { th with pc := .procPutBack (e :: r) any } ∧
        ((exec s1 others).qm = none → ∀ ch, ∃ s3, step (exec s1 others) t ch = some s3 ∧
          s3.queue = e :: r ++ (exec s1 others).queue ∧ s3.consumed = (exec s1 others).consumed ∧
          ∃ th3, getT s3 t = some th3 ∧ inflightOf th3.pc = []) := by
  have hk : kept = [] := C06_processUntil_kept_nil h ht hpc (by omega)
  subst hk
  refine ⟨goto s t th (.procPutBack (e :: r) any), fun ch => by simp [step, ht, hpc, hstop], rfl, rfl, ?_⟩
  intro others hne
  have hg1 : (goto s t th (.procPutBack (e :: r) any)).threads[t]? =
      some { th with pc := .procPutBack (e :: r) any } := by
    rw [goto_eq, setT_threads]; exact set_self ht _
  have hg2 := exec_others_thread (th := { th with pc := .procPutBack (e :: r) any })
    (by intro timed hh; cases hh) others _ hne hg1
  refine ⟨hg2, fun hq ch => ?_⟩
  generalize exec (goto s t th (.procPutBack (e :: r) any)) others = s2 at hg2 hq
  refine ⟨goto { s2 with queue := (e :: r) ++ s2.queue } t { th with pc := .procPutBack (e :: r) any }
    (.procPbReadNc any), ?_, rfl, rfl,
    { th with pc := .procPbReadNc any }, ?_, rfl⟩
  · simp [step, getT, hg2, hq]
  · rw [goto_eq, getT, setT_threads]; exact set_self hg2 _

/-- **C06 (mutex).** `queueListMutex` is held across micro-steps exactly by a waiter that is
    evaluating its predicate (`waitRead1/2/3`, `waitPark`: see `holdsM_iff`). -/
theorem C06_mutex (h : ReachF progs flag s) (t : Tid) :
    s.qm = some t ↔ ∃ th, getT s t = some th ∧ holdsM th.pc = true :=
  h.mutex t

/-- at most one thread is in such a state -/
theorem C06_mutex_unique (h : ReachF progs flag s) {t u : Tid} {th thu : Thread}
    (ht : getT s t = some th) (hu : getT s u = some thu)
    (h1 : holdsM th.pc = true) (h2 : holdsM thu.pc = true) : t = u :=
  Option.some.inj (((h.mutex t).mpr ⟨th, ht, h1⟩).symm.trans ((h.mutex u).mpr ⟨thu, hu, h2⟩))

/-- **C06 (progress, per thread).** Every thread that has not finished its program can take a
    micro-step, or it is waiting for `queueListMutex`, whose holder is another thread that can take
    a micro-step (the holder is always a waiter evaluating its predicate: it never blocks). -/
theorem C06_progress_thread (h : ReachF progs flag s) {u : Tid} {thu : Thread}
    (hu : getT s u = some thu) (hf : finished thu = false) :
    (step s u 0).isSome = true ∨
    ∃ hd thd, s.qm = some hd ∧ hd ≠ u ∧ getT s hd = some thd ∧ isParked thd = false ∧
      (step s hd 0).isSome = true := by
  cases hq : s.qm with
  | none => exact Or.inl (step_isSome_of_free hu hf hq)
  | some hd =>
    obtain ⟨thd, hg, hh⟩ := (C06_mutex h hd).mp hq
    by_cases hdu : hd = u
    · subst hdu; exact Or.inl (step_isSome_of_holder hg hh)
    · exact Or.inr ⟨hd, thd, rfl, hdu, hg, holdsM_not_parked hh, step_isSome_of_holder hg hh⟩

/-- **C06 (no deadlock).** In every reachable state, if some thread is neither finished nor parked
    in `wait`, then some thread that is not parked can take a micro-step (so the witness is a real
    step, not the spurious wake-up of a parked waiter). -/
theorem C06_progress (h : ReachF progs flag s)
    (hex : ∃ u thu, getT s u = some thu ∧ finished thu = false ∧ isParked thu = false) :
    ∃ t th ch, getT s t = some th ∧ isParked th = false ∧ (step s t ch).isSome = true := by
  obtain ⟨u, thu, hu, hf, hp⟩ := hex
  rcases C06_progress_thread h hu hf with h1 | ⟨hd, thd, _, _, hg, hp', h1⟩
  · exact ⟨u, thu, 0, hu, hp, h1⟩
  · exact ⟨hd, thd, 0, hg, hp', h1⟩

/-- a parked waiter is blocked only until a notification, its time-out or a spurious wake-up: the
    spurious wake-up step is always available -/
theorem C06_parked_can_wake {u : Tid} {thu : Thread} (hu : getT s u = some thu) (hp : isParked thu = true) :
    (step s u 0).isSome = true :=
  step_isSome_of_parked hu hp

end

/-! Three threads: a producer (three `enqueue`s), a `processOne` consumer that later calls `clearEvents`,
and a `processIf` consumer (declines odd ids and puts them back) that later calls `takeEvent`. -/

namespace C06Demo

def rep (t n : Nat) : List (Tid × Nat) := List.replicate n (t, 0)

def prog3 : List (List Call) :=
  [[.enqueue, .enqueue, .enqueue], [.processOne, .clearEvents], [.processIf true, .takeEvent]]

/-- producer enqueues 0 and 1; both consumers pass the pre-check and raise `ec`; thread 1 takes
    event 0, thread 2 swaps out [1]; the producer enqueues 2; thread 1 dispatches 0; thread 2
    declines 1 and puts it back in front of 2; both finish their first call -/
def sched1 : List (Tid × Nat) :=
  rep 0 10 ++ rep 1 3 ++ rep 2 3 ++ rep 1 1 ++ rep 2 1 ++ rep 0 5 ++ rep 1 1 ++ rep 2 6 ++ rep 1 2

/-- the point where both consumers hold an event locally and the producer is mid-`enqueue` -/
def schedMid : List (Tid × Nat) := rep 0 10 ++ rep 1 3 ++ rep 2 3 ++ rep 1 1 ++ rep 2 1 ++ rep 0 2

/-- then thread 2 takes event 1 and thread 1 clears event 2 -/
def sched2 : List (Tid × Nat) := sched1 ++ rep 2 3 ++ rep 1 3

theorem reach (sched : List (Tid × Nat)) : Reach prog3 (exec (init prog3) sched) := ⟨sched, rfl⟩

example : (exec (init prog3) schedMid).queue = [2] ∧ inflight (exec (init prog3) schedMid) = [0, 1] ∧
    (exec (init prog3) schedMid).ec = 2 ∧ (exec (init prog3) schedMid).consumed = [] := by decide +kernel

example : (exec (init prog3) sched1).queue = [1, 2] ∧
    (exec (init prog3) sched1).consumed = [(0, .dispatched, 1)] ∧
    (exec (init prog3) sched1).threads.map (·.rets) = [[.unit, .unit, .unit], [.bool true], [.bool false]] := by
  decide +kernel

/-- drained: every thread finished, the queue empty, and dispatched ∪ taken ∪ cleared = enqueued -/
example : (exec (init prog3) sched2).queue = [] ∧
    (exec (init prog3) sched2).threads.all finished = true ∧
    (exec (init prog3) sched2).consumed = [(0, .dispatched, 1), (1, .taken, 2), (2, .cleared, 1)] ∧
    (exec (init prog3) sched2).enqueued = [(0, 0), (1, 0), (2, 0)] ∧
    (exec (init prog3) sched2).threads.map (·.rets) =
      [[.unit, .unit, .unit], [.bool true, .unit], [.bool false, .bool true]] := by
  decide +kernel

/-- the hypotheses of `C06_drained` are satisfiable -/
example : (consumedIds (exec (init prog3) sched2)).Perm (enqueuedIds (exec (init prog3) sched2)) :=
  have h : (∀ th ∈ (exec (init prog3) sched2).threads, finished th = true) ∧ (exec (init prog3) sched2).queue = [] := by
    decide +kernel
  C06_drained (reach sched2).reachF h.1 h.2

/-- a program family without `processIf`, for `C06_order` -/
def progsNoIf : List (List Call) :=
  [[.enqueue, .enqueue, .enqueue], [.processOne, .process], [.takeEvent]]

theorem progsNoIf_ok : NoIf progsNoIf := by unfold NoIf progsNoIf; decide

def sched3 : List (Tid × Nat) := rep 0 10 ++ rep 1 4 ++ rep 2 3 ++ rep 0 5 ++ rep 1 20

example : (exec (init progsNoIf) sched3).consumed = [(1, .taken, 2), (0, .dispatched, 1), (2, .dispatched, 1)] ∧
    (exec (init progsNoIf) sched3).queue = [] := by decide +kernel

/-- `C06_order` applies to it: e.g. thread 1's consumed ids `[0, 2]` are increasing -/
example : (((exec (init progsNoIf) sched3).consumed.filter (·.2.2 == 1)).map (·.1)).Pairwise (· < ·) :=
  C06_order_consumer progsNoIf_ok (⟨sched3, rfl⟩ : ReachF progsNoIf true _) 1

example : ((exec (init progsNoIf) sched3).consumed.filter (·.2.2 == 1)).map (·.1) = [0, 2] := by decide +kernel

/-- `C06_progress` applies in the mid-run state: somebody can step -/
example : ∃ t th ch, getT (exec (init prog3) schedMid) t = some th ∧ isParked th = false ∧
    (step (exec (init prog3) schedMid) t ch).isSome = true :=
  C06_progress (reach schedMid).reachF
    ⟨0, { prog := [.enqueue], pc := .enqReadEmpty, rets := [.unit, .unit] }, by decide +kernel, rfl, rfl⟩

end C06Demo

/-! ### `processUntil`: concrete schedules (outside `C06Demo` so that the audit collects them) -/

open C06Demo (rep)

/-- a producer and ONE consumer that runs `processUntil` (stop at the first odd id), then `process` -/
def progsUntil : List (List Call) := [[.enqueue, .enqueue, .enqueue], [.processUntil true, .process]]

theorem reachU (sched : List (Tid × Nat)) : Reach progsUntil (exec (init progsUntil) sched) := ⟨sched, rfl⟩

theorem progsUntil_ok : SingleConsumer progsUntil 1 := by decide

/-- the producer enqueues 0 and 1; the consumer passes the pre-check, raises `ec` and swaps `[0, 1]`
    out (TAKE); the producer enqueues 2 — it lands in the emptied `queueList` —; the consumer
    dispatches 0 and its predicate stops at 1 -/
def schedU1 : List (Tid × Nat) := rep 0 10 ++ rep 1 4 ++ rep 0 6 ++ rep 1 2

/-- … the PUT-BACK: `[1]` goes in front of `[2]` -/
def schedU2 : List (Tid × Nat) := schedU1 ++ rep 1 1

/-- … the consumer finishes `processUntil` (reads `nc`, notifies, `--ec`; result `true`) and drains the
    queue with `process` -/
def schedU3 : List (Tid × Nat) := schedU2 ++ rep 1 3 ++ rep 1 8

/-- **Example: an enqueue between the take and the put-back of a `processUntil`.**  After the take the
    queue is empty and the consumer holds `[0, 1]`; event 2 is spliced in meanwhile; at the stop the
    consumer is about to put back `[1]` while the queue is `[2]`; the put-back gives `[1, 2]`; the final
    consumption order of the single consumer is the enqueue order 0, 1, 2. -/
theorem C06_processUntil_example :
    (let s := exec (init progsUntil) (rep 0 10 ++ rep 1 4)
     s.queue = [] ∧ s.threads.map (·.pc) = [.idle, .procLoop 5 [0, 1] [] false] ∧ s.ec = 1) ∧
    (let s := exec (init progsUntil) schedU1
     s.queue = [2] ∧ s.threads.map (·.pc) = [.idle, .procPutBack [1] true] ∧
     s.consumed = [(0, .dispatched, 1)] ∧ s.enqueued = [(0, 0), (1, 0), (2, 0)]) ∧
    (let s := exec (init progsUntil) schedU2
     s.queue = [1, 2] ∧ s.threads.map (·.pc) = [.idle, .procPbReadNc true] ∧ s.ec = 1) ∧
    (let s := exec (init progsUntil) schedU3
     s.queue = [] ∧ s.threads.all finished = true ∧ s.ec = 0 ∧
     s.consumed = [(0, .dispatched, 1), (1, .dispatched, 1), (2, .dispatched, 1)] ∧
     s.threads.map (·.rets) = [[.unit, .unit, .unit], [.bool true, .bool true]]) := by
  decide +kernel

/-- `C06_order_single_consumer` applies to it (every schedule, not just this one) -/
example (sched : List (Tid × Nat)) : (consumedIds (exec (init progsUntil) sched)).Pairwise (· < ·) :=
  (C06_order_single_consumer_consumed progsUntil_ok (⟨sched, rfl⟩ : ReachF progsUntil true _)).1

/-- `C06_processUntil_putback_front` applies at the state right before the stop: the hypotheses are
    satisfiable (thread 1 at `procLoop 5 [1] [] true`, the predicate stops at 1) -/
example : ∃ s1, (∀ ch, step (exec (init progsUntil) (rep 0 10 ++ rep 1 4 ++ rep 0 6 ++ rep 1 1)) 1 ch = some s1) ∧
    s1.queue = [2] ∧ s1.consumed = [(0, .dispatched, 1)] := by
  obtain ⟨s1, h1, h2, h3, _⟩ := C06_processUntil_putback_front
    (reachU (rep 0 10 ++ rep 1 4 ++ rep 0 6 ++ rep 1 1)).reachF (t := 1)
    (th := { prog := [.processUntil true, .process], pc := .procLoop 5 [1] [] true }) (m := 5) (e := 1) (r := [])
    (kept := []) (any := true) (by decide +kernel) rfl (Or.inr rfl) (by decide)
  refine ⟨s1, h1, ?_⟩
  rw [h2, h3]
  decide +kernel

/-- TWO consumers: a `processUntil` thread (stop at the first odd id) and a thread calling `process`
    twice.  Thread 1 swaps `[0, 1, 2]` out; event 3 is enqueued; thread 2 swaps `[3]` out and dispatches
    it; thread 1 dispatches 0, stops at 1 and puts `[1, 2]` back; thread 2's second `process` dispatches
    1 and 2.  Thread 2 has consumed 3, 1, 2 — events of ONE producer, consumed by ONE thread, out of
    enqueue order: with several consumers `processUntil` (like `processIf`) breaks the order clause in
    the code itself, so `C06_order` must exclude it and `C06_order_single_consumer` needs its
    hypothesis. -/
def progsUntil2 : List (List Call) :=
  [[.enqueue, .enqueue, .enqueue, .enqueue], [.processUntil true], [.process, .process]]

def schedUntil2 : List (Tid × Nat) := rep 0 15 ++ rep 1 4 ++ rep 0 6 ++ rep 2 7 ++ rep 1 6 ++ rep 2 8

theorem C06_processUntil_two_consumers_out_of_order :
    let s := exec (init progsUntil2) schedUntil2
    s.threads.all finished = true ∧ s.queue = [] ∧
    s.consumed = [(3, .dispatched, 2), (0, .dispatched, 1), (1, .dispatched, 2), (2, .dispatched, 2)] ∧
    (s.consumed.filter (·.2.2 == 2)).map (·.1) = [3, 1, 2] ∧
    s.enqueued = [(0, 0), (1, 0), (2, 0), (3, 0)] := by
  decide +kernel

end Evp.Conc
