import EventppVerif.Conc.SpinLock
import EventppVerif.Generated.SpinFrag
/-
  Properties C03 / C06 with the SpinLock mutex policy ("mutex policy std::mutex or SpinLock"): the
  concurrent models treat a critical section as atomic because the mutex excludes everybody else.
  For `std::mutex` that is the standard's guarantee; `eventpp::SpinLock` is library code.
  Conc/SpinLock.lean is its model (test-and-set loop); Generated/SpinFrag.lean re-reads on every run
  that the source still has that shape; harness/spin_stress.cpp exercises the real lock with real
  threads.
-/
namespace Evp.Spin

/-- **SpinLock excludes.**  For any number of threads and every schedule of their micro-steps
    (each `test_and_set`, each `clear`), at most one thread is inside the critical section. -/
theorem C03_spinlock_mutual_exclusion (n : Nat) (sched : List Nat) : inCritical (exec (init n) sched) ≤ 1 := by
  have := inv_exec (init n) (inv_init n) sched
  unfold Inv at this
  split at this <;> omega

/-- the flag is set exactly while a thread is inside (invariant of every reachable state) -/
theorem C03_spinlock_inv (n : Nat) (sched : List Nat) : Inv (exec (init n) sched) :=
  inv_exec (init n) (inv_init n) sched

/-- no deadlock: a thread that spins while the lock is free enters at its next step -/
theorem C03_spinlock_progress (s : State) (t : Nat) (hp : s.pcs[t]? = some .spinning) (hf : s.flag = false) :
    (step s t).pcs[t]? = some .critical :=
  progress s t hp hf

/-- bridge: the source's `lock()` / `unlock()` are the test-and-set loop and the clear of the model -/
theorem C03_bridge_spinlock : Gen.Spin.lockIsTasLoop = true ∧ Gen.Spin.unlockIsClear = true := by decide

/-- non-vacuity: three threads, a schedule in which thread 1 spins while thread 0 is inside -/
example :
    let s := exec (init 3) [0, 0, 1, 1, 1, 2, 0, 1]
    s.pcs = [.idle, .critical, .spinning] ∧ s.flag = true ∧ inCritical s = 1 := by decide

end Evp.Spin
