import EventppVerif.Properties.C02
/-
  Property C10 (list part) — copies are independent, moves transfer, swaps exchange.

  Spec: a world of lists `SCfg.lists : Nat → SList`; `SCfg.apply` gives the meaning of
  `dst = src` (`copyAssign`; copy construction is assignment into an unused slot),
  `dst = std::move(src)` (`moveAssign`) and `swap(a, b)`.
  Model: `MCfg.apply` on pointer objects: `clone` builds new nodes with new handles by walking the
  source chain, move transfers the object and leaves a fresh one, swap exchanges the objects.

  As everywhere, the three commands are only executed when none of the lists involved is being
  traversed (`busy l = false`; assigning to a list from inside one of its own callbacks is outside
  the property, the harness does not generate it and both machines skip the command).

  Layers: `C10_copy` … `C10_independent` say what the Spec does (that *is* the property);
  `C10_model_follows` says the Model stays related to the Spec across these commands;
  `C10_model_copy` / `C10_model_move` / `C10_model_swap` restate the content on the Model alone through
  the abstraction function `absList` (object ↦ handles and callbacks along `head`/`next`).
-/
namespace Evp

/-- **C10 (copy).**  After `dst = src` the target holds the same callbacks in the same order as
    the source, under fresh handles `nextId, nextId+1, …`; every other list — in particular the
    source — is unchanged, and `nextId` advanced past the new handles. -/
theorem C10_copy (s : SCfg) (busy : Nat → Bool) (dst src : Nat)
    (hne : dst ≠ src) (hb1 : busy dst = false) (hb2 : busy src = false) :
    let s' := (s.apply busy (.copyAssign dst src)).1
    (s'.lists dst).map (·.cb) = (s.lists src).map (·.cb) ∧
    (s'.lists dst).ids = List.range' s.nextId (s.lists src).length ∧
    s'.nextId = s.nextId + (s.lists src).length ∧
    (∀ b, b ≠ dst → s'.lists b = s.lists b) := by
  simp only [SCfg.apply, hne, hb1, hb2, or_self, Bool.false_eq_true, ↓reduceIte, upd_same]
  exact ⟨SList.cloneWith_cbs _ _, SList.cloneWith_ids _ _, trivial, fun b hb => upd_other _ _ _ _ hb⟩

/-- **C10 (a copy's handles are new).**  In a Spec state related to a Model state (every reachable
    state) no handle of the copy is a handle of any list of the world before the copy: removing
    through an old handle can never hit the copy and vice versa. -/
theorem C10_copy_fresh {m : MCfg} {s : SCfg} (h : Sim m s) (busy : Nat → Bool) (dst src : Nat)
    (hne : dst ≠ src) (hb1 : busy dst = false) (hb2 : busy src = false) (l' : Nat) (x : Hd)
    (hx : x ∈ (s.lists l').ids) :
    x ∉ ((s.apply busy (.copyAssign dst src)).1.lists dst).ids := by
  simp only [SCfg.apply, hne, hb1, hb2, or_self, Bool.false_eq_true, ↓reduceIte, upd_same]
  intro hm
  rw [SList.cloneWith_ids, List.mem_range'_1] at hm
  have h2 := (h.rep l').wf.lt x hx
  rw [h.nextId] at h2
  omega

/-- **C10 (move).**  After `dst = std::move(src)` the target holds exactly the source's entries
    (same handles, same callbacks, same order), the source is empty, every other list is
    unchanged and no handle was issued. -/
theorem C10_move (s : SCfg) (busy : Nat → Bool) (dst src : Nat)
    (hne : dst ≠ src) (hb1 : busy dst = false) (hb2 : busy src = false) :
    let s' := (s.apply busy (.moveAssign dst src)).1
    s'.lists dst = s.lists src ∧ s'.lists src = [] ∧ s'.nextId = s.nextId ∧
    (∀ b, b ≠ dst → b ≠ src → s'.lists b = s.lists b) := by
  simp only [SCfg.apply, hne, hb1, hb2, or_self, Bool.false_eq_true, ↓reduceIte]
  exact ⟨by rw [upd_other _ _ _ _ hne, upd_same], upd_same _ _ _, trivial,
    fun b h1 h2 => upd_upd_other _ _ _ h1 h2⟩

/-- **C10 (swap).**  After `swap(a, b)` list `a` holds what `b` held and vice versa (entries with
    their handles), everything else is unchanged.  With `a = b` this says nothing changes. -/
theorem C10_swap (s : SCfg) (busy : Nat → Bool) (a b : Nat) (hb1 : busy a = false) (hb2 : busy b = false) :
    let s' := (s.apply busy (.swap a b)).1
    s'.lists a = s.lists b ∧ s'.lists b = s.lists a ∧ s'.nextId = s.nextId ∧
    (∀ c, c ≠ a → c ≠ b → s'.lists c = s.lists c) := by
  simp only [SCfg.apply, hb1, hb2, or_self, Bool.false_eq_true, ↓reduceIte]
  exact ⟨upd_swap_fst _ a b, upd_same _ _ _, trivial, fun c h1 h2 => upd_upd_other _ _ _ h1 h2⟩

/-- **C10 (self-assignment).**  `l = l` and `l = std::move(l)` change nothing at all. -/
theorem C10_self (s : SCfg) (busy : Nat → Bool) (l : Nat) :
    (s.apply busy (.copyAssign l l)).1 = s ∧ (s.apply busy (.moveAssign l l)).1 = s := by
  simp [SCfg.apply]

/-- the lists a command may modify -/
def Cmd.targets : Cmd → List Nat
  | .append l _ => [l]
  | .prepend l _ => [l]
  | .insert l _ _ => [l]
  | .remove l _ => [l]
  | .owns _ _ => []
  | .empty _ => []
  | .invoke _ _ => []
  | .enum _ _ => []
  | .copyAssign dst _ => [dst]
  | .moveAssign dst src => [dst, src]
  | .swap a b => [a, b]
  | .setCounter l _ => [l]

/-- **C10 (independence).**  Every command leaves every list it does not name as a target
    (`Cmd.targets`: the list of append/prepend/insert/remove, the target of a copy, both sides of a
    move or swap) exactly as it was — so after a copy, operations on the copy do not affect the
    original and vice versa.  Spec and Model (for the Model: the very same object). -/
theorem C10_independent (s : SCfg) (m : MCfg) (busy : Nat → Bool) (cmd : Cmd) (b : Nat) (hb : b ∉ cmd.targets) :
    (s.apply busy cmd).1.lists b = s.lists b ∧ (m.apply busy cmd).1.lists b = m.lists b := by
  -- both machines write lists only by `upd` at a target
  constructor <;> cases cmd <;>
    simp only [SCfg.apply, MCfg.apply, Cmd.targets, List.mem_cons, List.not_mem_nil, or_false, not_or] at hb ⊢ <;>
    (repeat' split) <;> simp only [upd_get, hb, if_false]

/-- the three whole-list commands -/
def Cmd.isAssign : Cmd → Bool
  | .copyAssign _ _ => true
  | .moveAssign _ _ => true
  | .swap _ _ => true
  | _ => false

/-- **C10 (the Model follows).**  In related states (stacks `ms`/`ss` under the running program),
    copy / move / swap give the same result and lead to related states again — every list object
    of the Model represents the corresponding Spec list, every running traversal is still in
    correspondence — unconditionally (these commands never wrap a counter). -/
theorem C10_model_follows {m : MCfg} {s : SCfg} {ms ss} (h : SimOn m s ms ss) (cmd : Cmd)
    (hc : cmd.isAssign = true) :
    (m.apply (busyOn MFrame.isIterOn ms) cmd).2 = (s.apply (busyOn SFrame.isIterOn ss) cmd).2 ∧
    SimOn (m.apply (busyOn MFrame.isIterOn ms) cmd).1 (s.apply (busyOn SFrame.isIterOn ss) cmd).1 ms ss := by
  obtain ⟨h1, h2⟩ := sim_apply h cmd
  refine ⟨h1, h2 ?_⟩
  cases cmd <;> simp only [Cmd.isAssign, Bool.false_eq_true] at hc <;>
    simp only [MCfg.apply] <;> split <;> rfl

/-- **C10 (copy, Model alone).**  In every world satisfying the invariant `MInv` (every reachable
    one, `C19_inv`): after `dst = src` the content of the target object, read through `head`/`next`,
    is the content of the source with handles `nextId, nextId+1, …`; every other object (the source
    too) is untouched. -/
theorem C10_model_copy {m : MCfg} (h : MInv m) (busy : Nat → Bool) (dst src : Nat)
    (hne : dst ≠ src) (hb1 : busy dst = false) (hb2 : busy src = false) :
    let m' := (m.apply busy (.copyAssign dst src)).1
    absList (m'.lists dst) (m'.nextId + 1) = (absList (m.lists src) (m.nextId + 1)).cloneWith m.nextId ∧
    m'.nextId = m.nextId + (absList (m.lists src) (m.nextId + 1)).length ∧
    (∀ b, b ≠ dst → m'.lists b = m.lists b) := by
  obtain ⟨SL, r⟩ := h src
  obtain ⟨rc, hlen⟩ := rep_clone r
  simp only [MCfg.apply, hne, hb1, hb2, or_self, Bool.false_eq_true, ↓reduceIte, upd_same, MCfg.fuel]
  rw [hlen, r.abs]
  exact ⟨rc.abs, rfl, fun b hb => upd_other _ _ _ _ hb⟩

/-- **C10 (move, Model alone).**  The target becomes the source object itself, the source a fresh
    empty object. -/
theorem C10_model_move (m : MCfg) (busy : Nat → Bool) (dst src : Nat)
    (hne : dst ≠ src) (hb1 : busy dst = false) (hb2 : busy src = false) :
    let m' := (m.apply busy (.moveAssign dst src)).1
    m'.lists dst = m.lists src ∧ (∀ fuel, absList (m'.lists src) fuel = []) ∧ m'.nextId = m.nextId ∧
    (∀ b, b ≠ dst → b ≠ src → m'.lists b = m.lists b) := by
  simp only [MCfg.apply, hne, hb1, hb2, or_self, Bool.false_eq_true, ↓reduceIte]
  exact ⟨by rw [upd_other _ _ _ _ hne, upd_same], fun fuel => by rw [upd_same]; exact absList_head_none rfl fuel,
    trivial, fun b h1 h2 => upd_upd_other _ _ _ h1 h2⟩

/-- **C10 (swap, Model alone).**  The two objects are exchanged. -/
theorem C10_model_swap (m : MCfg) (busy : Nat → Bool) (a b : Nat) (hb1 : busy a = false) (hb2 : busy b = false) :
    let m' := (m.apply busy (.swap a b)).1
    m'.lists a = m.lists b ∧ m'.lists b = m.lists a ∧ m'.nextId = m.nextId ∧
    (∀ c, c ≠ a → c ≠ b → m'.lists c = m.lists c) := by
  simp only [MCfg.apply, hb1, hb2, or_self, Bool.false_eq_true, ↓reduceIte]
  exact ⟨upd_swap_fst _ a b, upd_same _ _ _, trivial, fun c h1 h2 => upd_upd_other _ _ _ h1 h2⟩

def c10Beh : Beh := fun _ _ => .ret true

/-- list 0 = [10, 11]; list 1 = copy of list 0; append 12 to the copy, remove the first callback of
    the original through its handle, try to remove it from the copy (no effect: `false`);
    list 2 = move of list 0; swap lists 1 and 2; invoke all three. -/
def c10Prog : Prog :=
  .op (.append 0 10) fun _ => .op (.append 0 11) fun _ =>
  .op (.copyAssign 1 0) fun _ => .op (.append 1 12) fun _ =>
  .op (.remove 0 0) fun _ => .op (.remove 1 0) fun _ =>
  .op (.moveAssign 2 0) fun _ => .op (.swap 1 2) fun _ =>
  .op (.invoke 0 7) fun _ => .op (.invoke 1 7) fun _ => .op (.invoke 2 7) fun _ => .ret true

/-- Model and Spec computed by the kernel agree; at the end list 0 is empty, list 1 holds the
    original's remaining callback (handle 1), list 2 the copy `10, 11` (handles 2, 3) plus `12`. -/
example :
    let m := (MCfg.runN c10Beh 40 { nlists := 3, stack := [.prog c10Prog] }).1
    let s := (SCfg.runN c10Beh 40 { nlists := 3, stack := [.prog c10Prog] }).1
    m.trace = s.trace ∧ m.wraps = 0 ∧
    s.lists 0 = [] ∧ s.lists 1 = [⟨1, 11⟩] ∧ s.lists 2 = [⟨2, 10⟩, ⟨3, 11⟩, ⟨4, 12⟩] ∧
    absList (m.lists 0) 10 = [] ∧ absList (m.lists 1) 10 = [⟨1, 11⟩] ∧
    absList (m.lists 2) 10 = [⟨2, 10⟩, ⟨3, 11⟩, ⟨4, 12⟩] ∧
    m.trace.reverse =
      [.res (.handle 0), .res (.handle 1), .res .unit, .res (.handle 4),
       .res (.bool true), .res (.bool false), .res .unit, .res .unit,
       .res .unit,
       .call ⟨1, 1, 11, 7, false⟩, .res .unit,
       .call ⟨2, 2, 10, 7, false⟩, .call ⟨2, 3, 11, 7, false⟩, .call ⟨2, 4, 12, 7, false⟩, .res .unit] := by
  decide +kernel

/-- the hypotheses of `C10_copy_fresh` / `C10_model_follows` / `C10_model_copy` are satisfiable:
    the state after the two appends is related to its Spec state, satisfies `MInv`, nothing is
    busy, and the theorems apply to `copyAssign 1 0` there. -/
example :
    let m := (MCfg.runN c10Beh 2 { nlists := 3, stack := [.prog c10Prog] }).1
    let s := (SCfg.runN c10Beh 2 { nlists := 3, stack := [.prog c10Prog] }).1
    (∀ x ∈ (s.lists 0).ids, x ∉ ((s.apply (fun _ => false) (.copyAssign 1 0)).1.lists 1).ids) ∧
    absList ((m.apply (fun _ => false) (.copyAssign 1 0)).1.lists 1)
      ((m.apply (fun _ => false) (.copyAssign 1 0)).1.nextId + 1)
      = (absList (m.lists 0) (m.nextId + 1)).cloneWith m.nextId := by
  intro m s
  have hs : Sim m s := (C02_simulation c10Beh 2 _ _ (C02_init 3 c10Prog) (by decide +kernel)).1
  have hinv : MInv m := fun l => ⟨_, hs.rep l⟩
  exact ⟨fun x hx => C10_copy_fresh hs (fun _ => false) 1 0 (by decide) rfl rfl 0 x hx,
    (C10_model_copy hinv (fun _ => false) 1 0 (by decide) rfl rfl).1⟩

end Evp
