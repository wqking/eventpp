import EventppVerif.CL.Reach
import EventppVerif.Properties.C02
/-
  Property C08 (list part) — stored callbacks are destroyed exactly once, never leaked.

  In the source a node (and the callback stored in it) lives exactly as long as some
  `shared_ptr` points to it: the list object's `head` / `tail`, the `next` / `previous` of another
  living node, or the local `node` variable of a running traversal.  The Model keeps every node
  ever allocated in a total heap, so "destroyed" is stated as "not reachable": `Reach l n`
  (CL/Reach.lean) holds for the nodes reachable from `l.head` / `l.tail` by following `next` /
  `prev` of reachable nodes.

  What is proved here holds for every list object `l` that represents a Spec list `SL` (`Rep l SL b` —
  every list of every reachable state, by `minv_runN` / `C19_inv`, wrap or not).
  The reference-count bookkeeping itself (who decrements when) is below the abstraction level of
  this Model; it is covered by the harness run under the leak checker (see DESIGN.md, C08).
-/
namespace Evp

/-- **C08 (no leak, no early release; quiescent list).**  For every list object `l` representing
    `SL` and every node id `n`: the object retains `n` iff `n` is the handle of a callback currently
    in the list. -/
theorem C08_list_quiescent {l : CL} {SL : SList} {b : Nat} (r : Rep l SL b) (n : Nat) :
    Reach l n ↔ n ∈ SL.ids :=
  ⟨r.wf.reach_mem, r.wf.mem_reach⟩

/-- the same, stated on the Model alone: retained ⇔ on the `head`/`next` chain ⇔ not marked
    removed, for every list `l` of every world satisfying the invariant `MInv` -/
theorem C08_world_quiescent {m : MCfg} (h : MInv m) (l n : Nat) :
    (Reach (m.lists l) n ↔ n ∈ chainOf (m.lists l).heap (m.nextId + 1) (m.lists l).head) ∧
    (Reach (m.lists l) n ↔ ((m.lists l).heap n).counter ≠ 0) := by
  obtain ⟨SL, r⟩ := h l
  rw [r.chain]
  exact ⟨C08_list_quiescent r n, (C08_list_quiescent r n).trans (r.wf.live n)⟩

/-- **C08 (live nodes point only to live nodes).**  For every node `n` in the chain, `next` and
    `previous` of `n` are `none` or again in the chain.  So a removed node, although it keeps its own
    links, is not kept alive by the list, and it keeps nothing alive that the list does not keep anyway. -/
theorem C08_list_live_closed {l : CL} {SL : SList} {b : Nat} (r : Rep l SL b) (n : Nat) (hn : n ∈ SL.ids) :
    (∀ x, (l.heap n).next = some x → x ∈ SL.ids) ∧ (∀ x, (l.heap n).prev = some x → x ∈ SL.ids) :=
  ⟨fun _ hx => r.wf.next_mem hn hx, fun _ hx => r.wf.prev_mem hn hx⟩

/-- **C08 (remove releases exactly the removed callback).**  After `remove h` the object retains
    exactly the previously retained nodes other than `h`; in particular `h` itself is released,
    whether or not it was in the list. -/
theorem C08_remove_releases {l : CL} {SL : SList} {b : Nat} (r : Rep l SL b) (h n : Nat) :
    Reach (l.remove h).1 n ↔ (Reach l n ∧ n ≠ h) := by
  rw [C08_list_quiescent (rep_remove r h).1, C08_list_quiescent r, ← SList.present_iff, ← SList.present_iff,
    SList.present_remove]
  simp

/-- **C08 (append retains the new callback and everything retained before).** -/
theorem C08_append_retains {l : CL} {SL : SList} {b : Nat} (r : Rep l SL b) (cb : Cb) (n : Nat) :
    Reach (l.append (b + 1) b cb) n ↔ (Reach l n ∨ n = b) := by
  rw [C08_list_quiescent (rep_append r cb), C08_list_quiescent r, SList.ids_append]
  simp

/-- **C08 (moved-from / cleared object).**  The object left behind by a move assignment (fresh
    object keeping only the counter) retains nothing. -/
theorem C08_cleared (cur M : Nat) (n : Nat) : ¬ Reach { cur := cur, M := M } n :=
  reach_empty rfl rfl n

/-- **C08 (move, machine level).**  After `dst = std::move(src)` (executed, i.e. `dst ≠ src` and
    neither list is being traversed) the source retains no node, and the target *is* the old
    source object, so it retains exactly what the source retained: nothing is leaked, nothing is
    destroyed twice.  What `dst` retained before is released (no longer reachable from any list
    object unless it was also in `src`, which distinct objects never share). -/
theorem C08_moved_from (m : MCfg) (busy : Nat → Bool) (dst src : Nat)
    (hne : dst ≠ src) (hb1 : busy dst = false) (hb2 : busy src = false) (n : Nat) :
    ¬ Reach ((m.apply busy (.moveAssign dst src)).1.lists src) n ∧
    (m.apply busy (.moveAssign dst src)).1.lists dst = m.lists src := by
  simp only [MCfg.apply, hne, hb1, hb2, or_self, Bool.false_eq_true, ↓reduceIte, upd_same]
  refine ⟨reach_empty rfl rfl n, ?_⟩
  rw [upd_other _ _ _ _ hne, upd_same]

/-- **C08 (copy).**  The copy made by `dst = src` retains exactly its own fresh nodes
    `nextId … nextId + length - 1` — none of the source's. -/
theorem C08_clone_retains {l : CL} {SL : SList} {b : Nat} (r : Rep l SL b) (n : Nat) :
    Reach (l.clone (b + 1) b) n ↔ (b ≤ n ∧ n < b + SL.length) := by
  rw [C08_list_quiescent (rep_clone r).1, SList.cloneWith_ids, List.mem_range'_1]

/-- callbacks that do nothing -/
def c08Beh : Beh := fun _ _ => .ret true

/-- three appends, the middle one removed, one more prepended -/
def c08Prog : Prog :=
  .op (.append 0 10) fun _ => .op (.append 0 11) fun _ => .op (.append 0 12) fun _ =>
  .op (.remove 0 1) fun _ => .op (.prepend 0 13) fun _ => .ret true

/-- `Rep` holds for the list of a concrete reachable state, and there the retained nodes are
    exactly `3, 0, 2`: node `1` (removed) is released although `(heap 1).next = some 2` still
    points into the list. -/
example :
    let m := (MCfg.runN c08Beh 6 { stack := [.prog c08Prog] }).1
    (∀ n, Reach (m.lists 0) n ↔ n ∈ [3, 0, 2]) ∧ ¬ Reach (m.lists 0) 1 ∧
    ((m.lists 0).heap 1).next = some 2 := by
  intro m
  -- the Model run is evaluated once: no wrap (for the simulation), and the stale link
  have ev : m.wraps = 0 ∧ ((m.lists 0).heap 1).next = some 2 := by decide +kernel
  have hs := (C02_simulation c08Beh 6 _ _ (C02_init 1 c08Prog) ev.1).1
  have hids : ((SCfg.runN c08Beh 6 { stack := [.prog c08Prog] }).1.lists 0).ids = [3, 0, 2] := by
    decide +kernel
  have key : ∀ n, Reach (m.lists 0) n ↔ n ∈ [3, 0, 2] := fun n => by
    rw [← hids]; exact C08_list_quiescent (hs.rep 0) n
  exact ⟨key, fun h => by have := (key 1).mp h; simp at this, ev.2⟩

end Evp
