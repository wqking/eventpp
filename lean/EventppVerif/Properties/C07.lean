/-
  C07 — wake-up of threads blocked in `wait` / `waitFor` (concurrent model `Conc/Queue.lean`).

  Property text: "A thread blocked in wait or waitFor is released once the queue holds an event and
  no DisableQueueNotify object is alive: neither an enqueue made while notification is enabled nor
  the destruction of the last DisableQueueNotify with events pending can go unnoticed, so no
  interleaving leaves every waiter blocked forever while events are pending, notification is
  enabled and woken consumers drain the queue.  A wait during whose entire duration a
  DisableQueueNotify object is alive does not return; wait returns, and waitFor returns true, only
  after observing a non-empty queue with notification enabled, and waitFor returns false only after
  its timeout."

  `C07_no_lost_wakeup`: for well-formed programs (`WF`: every wait/waitFor is followed by `process`,
  DisableQueueNotify scopes are balanced; `processIf` and `processUntil` calls ARE allowed) and the
  repaired destructor.  It rests on the inductive invariant `J`
  (`Conc/WaitDefs.lean`, `Conc/WaitInv.lean`); `C07_obligation` is the invariant's key clause and
  `C07_window` the mutual-exclusion window the repairs rely on.

  Defect D3 (`C07_counterexample_unlocked`, `C07_same_schedule_repaired`): the destructor that decrements
  outside `queueListMutex` loses a wake-up; the repaired one blocks at `dqnDec` while the waiter holds the
  mutex and then wakes it.

  Defect D11 (`C07_processIf_repaired`).  `emptyQueue()`
  — used by `doCanProcess()` in `enqueue` and in `~DisableQueueNotify` — reads `queueList.empty()`
  and then `queueEmptyCounter` as two separate accesses.  A concurrent `processIf` that has swapped
  the list out (so the list read sees "empty"), then splices the declined events back and drops its
  CounterGuard (so the counter read sees 0) makes the notifier conclude "queue empty" although an
  event was pending throughout.  Before the repair `processIf` itself never notified and the two
  schedules ended with the waiter parked for ever, event 0 pending, `nc = 0`.  The repair
  (`if(doCanNotifyQueueAvailable()) notify_one()` after the put-back splice; in the model the pcs
  `procPbReadNc`, `procPbNotify` after `procPutBack`) makes `processIf` the notifier of the events it
  puts back: with it the same schedules wake the waiter, which drains the queue.
  `processUntil` (model modes 4/5) has the same window and shares `procPutBack`, `procPbReadNc`, `procPbNotify`
  with `processIf`, as the source shares the code after the loop: the events it stops at are invisible to
  `emptyQueue()` between the swap and the put-back, and it notifies on behalf of the notifier that
  skipped (`C07_processUntil_putback_notifies`).

  Why `processIf` / `processUntil` need no restriction in `WF` (the argument of `J_step` at the put-back pcs):
  see `holderPc` (Conc/WaitDefs.lean).  `procPbReadNc` drops the obligation only on reading `nc ≠ 0` (condition
  false at that moment; the destructor that later brings `nc` to 0 becomes a holder at `dqnDec`), and
  `procPbNotify` wakes a parked waiter (then `woken` is the holder) or finds nobody parked.

  Note on `WF`: clause (b) (balanced DisableQueueNotify scopes) is not needed by
  `C07_no_lost_wakeup`, whose conclusion already carries `nc = 0`; it is used by
  `C07_no_lost_wakeup_events`.
-/
import EventppVerif.Generated.QueueFrag
import EventppVerif.Conc.DqnCount
import EventppVerif.Conc.WaitInv
import EventppVerif.Conc.WaitBal

namespace Evp.Conc

/-- KEY clause of the invariant: whenever events are pending, notification is enabled and some
    thread is parked, some thread carries an obligation (see `holderPc`, `holder`). -/
theorem C07_obligation {progs : List (List Call)} (hwf : WF progs) {s : State} (hr : Reach progs s)
    (hc : s.queue ≠ [] ∧ s.nc = 0) (hp : ∃ t th, getT s t = some th ∧ isParked th = true) :
    ∃ t th, getT s t = some th ∧ holder th = true :=
  (J_reach hwf hr).key hc hp

/-- The window: while a waiter is between its predicate evaluation and its parking it holds
    `queueListMutex`, so neither an enqueue's splice, nor (repaired) a DisableQueueNotify
    destructor's decrement, nor the put-back splice of a `processIf` / `processUntil` can execute.  (Needs no
    hypothesis on the programs beyond `WF`.) -/
theorem C07_window {progs : List (List Call)} (hwf : WF progs) {s : State} (hr : Reach progs s)
    {u : Tid} {thu : Thread} (hu : getT s u = some thu) (hpcu : holdsQm thu.pc = true)
    {t : Tid} {th : Thread} (hg : getT s t = some th)
    (hpc : th.pc = .enqSplice ∨ th.pc = .dqnDec ∨ (∃ k a, th.pc = .procPutBack k a)) (ch : Nat) :
    step s t ch = none := by
  have hJ := J_reach hwf hr
  have hqm : s.qm = some u := (hJ.base.loc u thu hu).1 hpcu
  have hlk := hJ.base.locked
  rcases hpc with hpc | hpc | ⟨k, a, hpc⟩ <;> simp [step, hg, hpc, hqm, hlk]

/-- **C07, no lost wake-up.**  For well-formed programs and the repaired destructor, no schedule
    reaches a state in which every thread is finished or parked, at least one is parked, and yet
    events are pending with notification enabled. -/
theorem C07_no_lost_wakeup (progs : List (List Call)) (hwf : WF progs) (s : State)
    (hr : Reach progs s)
    (hall : ∀ t th, getT s t = some th → finished th = true ∨ isParked th = true)
    (hex : ∃ t th, getT s t = some th ∧ isParked th = true) :
    ¬ (s.queue ≠ [] ∧ s.nc = 0) := by
  intro hc
  obtain ⟨v, thv, hv, hh⟩ := C07_obligation hwf hr hc hex
  unfold holder at hh
  rcases hall v thv hv with hf | hp
  · -- a finished thread is idle with an empty program: no obligation
    rw [(finished_iff.1 hf).2, (finished_iff.1 hf).1] at hh
    cases hh
  · -- a parked thread carries no obligation
    unfold isParked at hp
    split at hp
    · rename_i timed hpc
      rw [hpc] at hh; cases hh
    · cases hp

/-- Corollary using the balance hypothesis WF (b) (which `C07_no_lost_wakeup` itself does not need):
    `nc = 0` follows when no *parked* thread is inside a DisableQueueNotify scope of its own, because
    finished threads of balanced programs own no object and `nc` counts the live objects.  So: if a
    schedule ends with every thread finished or parked, somebody parked, and no parked thread
    blocking itself by its own DisableQueueNotify, then no event is pending. -/
theorem C07_no_lost_wakeup_events (progs : List (List Call)) (hwf : WF progs) (s : State)
    (hr : Reach progs s)
    (hall : ∀ t th, getT s t = some th → finished th = true ∨ isParked th = true)
    (hex : ∃ t th, getT s t = some th ∧ isParked th = true)
    (hown : ∀ t th, getT s t = some th → isParked th = true → th.dqn = 0) :
    s.queue = [] := by
  have hB : BInv s := BInv_reach (fun p hp => (hwf p hp).2) hr.reachF
  have hnc : s.nc = 0 := by
    rw [(DInv_reach hr.reachF).1]
    apply sumDqn_zero
    intro t th ht
    rcases hall t th ht with hf | hp
    · exact finished_dqn_zero (hB t th ht) hf
    · exact hown t th ht hp
  exact Decidable.not_not.1 fun hq => C07_no_lost_wakeup progs hwf s hr hall hex ⟨hq, hnc⟩

/-- The same, for the executable predicate `lostWakeup` used by the counter-examples and the test
    harness: no reachable state of well-formed programs (with or without `processIf` / `processUntil`) is a terminal
    state with a lost wake-up. -/
theorem C07_lostWakeup_false (progs : List (List Call)) (hwf : WF progs) (s : State)
    (hr : Reach progs s) : lostWakeup s = false := by
  cases hl : lostWakeup s with
  | false => rfl
  | true =>
    exfalso
    simp only [lostWakeup, Bool.and_eq_true, List.all_eq_true, List.any_eq_true, Bool.or_eq_true,
      Bool.not_eq_true', beq_iff_eq] at hl
    obtain ⟨⟨⟨hall, ⟨thp, hmem, hpk⟩⟩, hq⟩, hnc⟩ := hl
    obtain ⟨u, hu⟩ := List.getElem?_of_mem hmem
    refine C07_no_lost_wakeup progs hwf s hr (fun t th ht => hall th (List.mem_of_getElem? ht))
      ⟨u, thp, hu, hpk⟩ ⟨?_, hnc⟩
    intro h0; rw [h0] at hq; cases hq

def progsD3 : List (List Call) := [[.wait, .process], [.dqnBegin, .enqueue, .dqnEnd]]

def schedD3 : List (Tid × Nat) :=
  [(1,0),(1,0),(1,0),(1,0),(1,0),(1,0),(0,0),(0,0),(0,0),(0,0),(1,0),(1,0),(1,0),(1,0),(1,0),(0,0)]

/-- Defect D3: the destructor that decrements `nc` outside `queueListMutex` runs completely inside
    the waiter's window (after the waiter read `nc = 1`, before it parks): lost wake-up. -/
theorem C07_counterexample_unlocked :
    let s := exec (init progsD3 false) schedD3
    s.threads.map (·.pc) = [.parked false, .idle] ∧ s.threads.map finished = [false, true] ∧
    s.queue = [0] ∧ s.nc = 0 ∧ lostWakeup s = true := by
  decide +kernel

/-- The same schedule with the repaired destructor: after the first 11 steps thread 0 is at
    `waitPark` holding the mutex and thread 1 is blocked at `dqnDec`; at the end of the schedule
    thread 0 is parked, thread 1 still at `dqnDec` with `nc = 1`; four more steps of thread 1 run
    the destructor, which wakes thread 0; thread 0 then returns from `wait` and drains the queue. -/
theorem C07_same_schedule_repaired :
    (let s := exec (init progsD3 true) (schedD3.take 11)
     s.threads.map (·.pc) = [.waitPark false, .dqnDec] ∧ s.qm = some 0 ∧ s.nc = 1 ∧
     step s 1 0 = none) ∧
    (let s := exec (init progsD3 true) schedD3
     s.threads.map (·.pc) = [.parked false, .dqnDec] ∧ s.queue = [0] ∧ s.nc = 1) ∧
    (let s := exec (init progsD3 true) (schedD3 ++ List.replicate 4 (1,0))
     s.threads.map (·.pc) = [.woken false false, .idle] ∧ s.queue = [0] ∧ s.nc = 0) ∧
    (let s := exec (init progsD3 true) (schedD3 ++ List.replicate 4 (1,0) ++ List.replicate 11 (0,1))
     s.threads.map finished = [true, true] ∧ s.queue = [] ∧ s.nc = 0 ∧
     s.consumed = [(0, .dispatched, 0)] ∧ lostWakeup s = false) := by
  decide +kernel

/-- D11, enqueue side.  Thread 0 waits, thread 1 enqueues, thread 2 runs a `processIf` that declines
    event 0.  Thread 0 parks on the empty queue; thread 1 splices event 0 in; thread 2 swaps the list
    out and declines event 0; thread 1 reads "list empty"; thread 2 puts event 0 back, (the repair) reads
    `nc = 0` and notifies — waking thread 0 —, and decrements `queueEmptyCounter`; thread 1 reads
    `ec = 0` and does not notify. -/
def progsPIe : List (List Call) := [[.wait, .process], [.enqueue], [.processIf false]]

def schedPIe : List (Tid × Nat) :=
  List.replicate 5 (0,1) ++ [(1,0),(1,0)] ++ List.replicate 6 (2,0) ++ [(1,0)] ++
  List.replicate 4 (2,0) ++ [(1,0)]

/-- D11, destructor side.  Thread 1 holds a DisableQueueNotify while thread 3 enqueues event 0 and
    thread 0 parks; thread 2's `processIf` swaps the list out and declines event 0; the (repaired)
    destructor of thread 1 decrements `nc` to 0, reads `nc = 0`, reads "list empty"; thread 2 puts
    event 0 back, (the repair) reads `nc = 0` and notifies — waking thread 0 —, and decrements `ec`; the
    destructor reads `ec = 0` and does not notify. -/
def progsPId : List (List Call) :=
  [[.wait, .process], [.dqnBegin, .dqnEnd], [.processIf false], [.enqueue]]

def schedPId : List (Tid × Nat) :=
  [(1,0),(1,0)] ++ List.replicate 4 (3,0) ++ List.replicate 5 (0,1) ++ List.replicate 6 (2,0) ++
  List.replicate 4 (1,0) ++ List.replicate 4 (2,0) ++ [(1,0)]

/-- **Defect D11 repaired.**  The two interleavings of defect D11 (the code as it was did not notify after the put-back
    of `processIf`, and the wake-up was lost): in both, right before the put-back the waiter is parked, the notifier has
    read the list as empty and thread 2 is at `procPutBack [0]`; at the end of the schedule the
    notifier has skipped its notification (`ec = 0`) but the waiter has been woken by thread 2; eleven
    more steps of thread 0 return from `wait` and drain the queue.  Both programs are `WF`. -/
theorem C07_processIf_repaired :
    (WF progsPIe ∧
     (let s := exec (init progsPIe true) (schedPIe.take 14)
      s.threads.map (·.pc) = [.parked false, .enqReadEc, .procPutBack [0] false] ∧ s.queue = []) ∧
     (let s := exec (init progsPIe true) schedPIe
      s.threads.map (·.pc) = [.woken false false, .idle, .idle] ∧
      s.threads.map finished = [false, true, true] ∧
      s.queue = [0] ∧ s.nc = 0 ∧ s.ec = 0 ∧ lostWakeup s = false ∧ checkJ s = true) ∧
     (let s := exec (init progsPIe true) (schedPIe ++ List.replicate 11 (0,1))
      s.threads.map finished = [true, true, true] ∧ s.queue = [] ∧
      s.consumed = [(0, .dispatched, 0)] ∧
      s.threads.map (·.rets) = [[.unit, .bool true], [.unit], [.bool false]])) ∧
    (WF progsPId ∧
     (let s := exec (init progsPId true) (schedPId.take 21)
      s.threads.map (·.pc) = [.parked false, .dqnReadEc, .procPutBack [0] false, .idle] ∧
      s.queue = [] ∧ s.nc = 0) ∧
     (let s := exec (init progsPId true) schedPId
      s.threads.map (·.pc) = [.woken false false, .idle, .idle, .idle] ∧
      s.threads.map finished = [false, true, true, true] ∧
      s.queue = [0] ∧ s.nc = 0 ∧ s.ec = 0 ∧ lostWakeup s = false ∧ checkJ s = true) ∧
     (let s := exec (init progsPId true) (schedPId ++ List.replicate 11 (0,1))
      s.threads.map finished = [true, true, true, true] ∧ s.queue = [] ∧
      s.consumed = [(0, .dispatched, 0)] ∧
      s.threads.map (·.rets) = [[.unit, .bool true], [.unit, .unit], [.bool false], [.unit]])) := by
  decide +kernel

/-- … and by the main theorem NO schedule of these two programs ends in a lost wake-up. -/
theorem C07_processIf_no_schedule_loses (sched : List (Tid × Nat)) :
    lostWakeup (exec (init progsPIe) sched) = false ∧ lostWakeup (exec (init progsPId) sched) = false :=
  ⟨C07_lostWakeup_false progsPIe (by decide) _ ⟨sched, rfl⟩,
   C07_lostWakeup_false progsPId (by decide) _ ⟨sched, rfl⟩⟩

/-- The D11 window with `processUntil` (stop at the first even id: it stops at event 0 at once and puts
    it back).  Thread 0 parks on the empty queue; thread 1 splices event 0 in; thread 2 swaps the list
    out and stops at event 0; thread 1 reads "list empty"; thread 2 puts event 0 back, reads `nc = 0`
    and notifies — waking thread 0 —, and decrements `queueEmptyCounter`; thread 1 reads `ec = 0` and
    does not notify. -/
def progsPUe : List (List Call) := [[.wait, .process], [.enqueue], [.processUntil false]]

def schedPUe : List (Tid × Nat) :=
  List.replicate 5 (0,1) ++ [(1,0),(1,0)] ++ List.replicate 5 (2,0) ++ [(1,0)] ++
  List.replicate 4 (2,0) ++ [(1,0)]

/-- `processUntil` notifies after its put-back: right before the put-back the waiter is parked, the
    enqueuer has read the list as empty and thread 2 is at `procPutBack [0]`; at the end of the schedule
    the enqueuer has skipped its notification but the waiter has been woken by thread 2; eleven more
    steps of thread 0 return from `wait` and drain the queue. -/
theorem C07_processUntil_putback_notifies :
    WF progsPUe ∧
    (let s := exec (init progsPUe true) (schedPUe.take 13)
     s.threads.map (·.pc) = [.parked false, .enqReadEc, .procPutBack [0] false] ∧ s.queue = []) ∧
    (let s := exec (init progsPUe true) schedPUe
     s.threads.map (·.pc) = [.woken false false, .idle, .idle] ∧
     s.threads.map finished = [false, true, true] ∧
     s.queue = [0] ∧ s.nc = 0 ∧ s.ec = 0 ∧ lostWakeup s = false ∧ checkJ s = true) ∧
    (let s := exec (init progsPUe true) (schedPUe ++ List.replicate 11 (0,1))
     s.threads.map finished = [true, true, true] ∧ s.queue = [] ∧
     s.consumed = [(0, .dispatched, 0)] ∧
     s.threads.map (·.rets) = [[.unit, .bool true], [.unit], [.bool false]]) := by
  decide +kernel

/-- … and by the main theorem NO schedule of this program ends in a lost wake-up. -/
theorem C07_processUntil_no_schedule_loses (sched : List (Tid × Nat)) :
    lostWakeup (exec (init progsPUe) sched) = false :=
  C07_lostWakeup_false progsPUe (by decide) _ ⟨sched, rfl⟩

/-! What a returning `wait` / `waitFor` has observed.
  The four theorems are about ONE micro-step `step s t ch = some s'` of a thread `t` that is inside a
  `wait` / `waitFor` call (`isWaitPc`); `th` / `th'` are `t`'s thread records before / after. -/

/-- the `afterTimeout` flag carried by a wait pc -/
def atoFlag : PC → Bool
  | .waitRead1 _ a => a
  | .waitRead2 _ a => a
  | .waitRead3 _ a _ => a
  | .woken _ a => a
  | _ => false

section
variable {s s' : State} {t : Tid} {ch : Nat} {th th' : Thread}

/-- The moves of a thread inside `wait` / `waitFor`, with what the four theorems below need of each: the pc before,
    the pc after, the results after (`rets` are the results before), and what the step has read. -/
inductive WaitMove (s : State) (ch : Nat) (rets : List Ret) : PC → PC → List Ret → Prop
  | lock {timed} : WaitMove s ch rets (.waitLock timed) (.waitRead1 timed false) rets
  | read1T {timed ato} : WaitMove s ch rets (.waitRead1 timed ato) (.waitRead2 timed ato) rets
  | read1F {timed ato} : s.queue ≠ [] → WaitMove s ch rets (.waitRead1 timed ato) (.waitRead3 timed ato true) rets
  | read2Ec {timed ato} : s.ec ≠ 0 → WaitMove s ch rets (.waitRead2 timed ato) (.waitRead3 timed ato true) rets
  | read2Timeout {timed} : WaitMove s ch rets (.waitRead2 timed true) .idle (rets ++ [.bool false])
  | read2Park {timed} : WaitMove s ch rets (.waitRead2 timed false) (.waitPark timed) rets
  | read3Go {timed ato ne} : s.nc = 0 →
      WaitMove s ch rets (.waitRead3 timed ato ne) .idle (rets ++ [if timed then .bool true else .unit])
  | read3Timeout {timed ne} : WaitMove s ch rets (.waitRead3 timed true ne) .idle (rets ++ [.bool false])
  | read3Park {timed ne} : WaitMove s ch rets (.waitRead3 timed false ne) (.waitPark timed) rets
  | park {timed} : WaitMove s ch rets (.waitPark timed) (.parked timed) rets
  | spurious {timed} : WaitMove s ch rets (.parked timed) (.woken timed false) rets
  | timeout : ch = 1 → WaitMove s ch rets (.parked true) (.woken true true) rets
  | woken {timed ato} : WaitMove s ch rets (.woken timed ato) (.waitRead1 timed ato) rets

theorem wait_move (hg : getT s t = some th) (hw : isWaitPc th.pc = true)
    (h : step s t ch = some s') (hg' : getT s' t = some th') :
    WaitMove s ch th.rets th.pc th'.pc th'.rets := by
  obtain ⟨th0, pc, hg0, hpc, hst⟩ := Step.of_step h
  cases hg0.symm.trans hg
  obtain ⟨prog, pc0, rets, dqn⟩ := th
  cases hpc
  -- `cases hw` disposes of the steps that start outside `wait`; then `th'` is read off `hg'`
  cases hst <;> cases hw <;> cases eq_of_getT_setT_self hg hg' rfl <;> constructor <;> assumption

/-- `wait` returns (`.unit`) and `waitFor` returns `true` only by the step from `waitRead3` — i.e.
    after the non-emptiness observation of `C07_read3_observed` — that reads `nc = 0`. -/
theorem C07_returns_only_enabled (hg : getT s t = some th) (hw : isWaitPc th.pc = true)
    (h : step s t ch = some s') (hg' : getT s' t = some th')
    (hret : th'.rets = th.rets ++ [.unit] ∨ th'.rets = th.rets ++ [.bool true]) :
    s.nc = 0 ∧ ∃ timed ato ne, th.pc = .waitRead3 timed ato ne ∧
      th'.rets = th.rets ++ [if timed then .bool true else .unit] := by
  -- the records are taken apart so that the indices of `WaitMove` are variables and `cases` applies
  obtain ⟨_, pc, rets, _⟩ := th
  obtain ⟨_, pc', rets', _⟩ := th'
  cases wait_move hg hw h hg' <;> simp_all

/-- a thread reaches `waitRead3` only with the flag `nonEmpty = true`, and only by reading a
    non-empty list (from `waitRead1`) or, the list being empty, `queueEmptyCounter ≠ 0` (from
    `waitRead2`) — `emptyQueue()` returned false. -/
theorem C07_read3_observed (hg : getT s t = some th) (hw : isWaitPc th.pc = true)
    (h : step s t ch = some s') (hg' : getT s' t = some th')
    {timed ato ne : Bool} (hpc' : th'.pc = .waitRead3 timed ato ne) :
    ne = true ∧ ((th.pc = .waitRead1 timed ato ∧ s.queue ≠ []) ∨
                 (th.pc = .waitRead2 timed ato ∧ s.ec ≠ 0)) := by
  obtain ⟨_, pc, rets, _⟩ := th
  obtain ⟨_, pc', rets', _⟩ := th'
  cases wait_move hg hw h hg' <;> simp_all

/-- `waitFor` returns `false` only from a pc whose `afterTimeout` flag is set … -/
theorem C07_timeout_only (hg : getT s t = some th) (hw : isWaitPc th.pc = true)
    (h : step s t ch = some s') (hg' : getT s' t = some th')
    (hret : th'.rets = th.rets ++ [.bool false]) : atoFlag th.pc = true := by
  obtain ⟨_, pc, rets, _⟩ := th
  obtain ⟨_, pc', rets', _⟩ := th'
  cases wait_move hg hw h hg'
  case read3Go timed _ _ _ => cases timed <;> simp at hret
  all_goals simp_all [atoFlag]

/-- … and the flag is set only by the time-out step (`ch = 1`) of a thread parked in `waitFor`
    (`notifyOne` of another thread sets it to `false`, see `notifyOne`). -/
theorem C07_timeout_origin (hg : getT s t = some th) (hw : isWaitPc th.pc = true)
    (h : step s t ch = some s') (hg' : getT s' t = some th')
    (hato : atoFlag th'.pc = true) : atoFlag th.pc = true ∨ (th.pc = .parked true ∧ ch = 1) := by
  obtain ⟨_, pc, rets, _⟩ := th
  obtain ⟨_, pc', rets', _⟩ := th'
  cases wait_move hg hw h hg' <;> simp_all [atoFlag]

end

/-- `queueNotifyCounter` = number of live DisableQueueNotify objects (either destructor version) -/
theorem C07_counter (progs : List (List Call)) (b : Bool) {s : State}
    (hr : ReachFrom (init progs b) s) : s.nc = sumDqn s.threads :=
  (DInv_reach (progs := progs) (b := b) hr).1

/-- While some thread owns a live DisableQueueNotify object, no step completes a `wait`
    (`.unit`) or a `waitFor` with `true`.  Hence a wait during whose entire duration such an object
    is alive does not return (a `waitFor` can only time out). -/
theorem C07_disabled (progs : List (List Call)) (b : Bool) {s s' : State}
    (hr : ReachFrom (init progs b) s)
    {u : Tid} {thu : Thread} (hu : getT s u = some thu) (hlive : 1 ≤ thu.dqn)
    {t : Tid} {ch : Nat} {th th' : Thread}
    (hg : getT s t = some th) (hw : isWaitPc th.pc = true)
    (h : step s t ch = some s') (hg' : getT s' t = some th') :
    th'.rets ≠ th.rets ++ [.unit] ∧ th'.rets ≠ th.rets ++ [.bool true] := by
  have hnc : 1 ≤ s.nc := by
    rw [C07_counter progs b hr]
    exact Nat.le_trans hlive (le_sumDqn hu)
  refine ⟨fun hret => ?_, fun hret => ?_⟩
  · have := (C07_returns_only_enabled hg hw h hg' (Or.inl hret)).1; omega
  · have := (C07_returns_only_enabled hg hw h hg' (Or.inr hret)).1; omega

/-- a waiter that drains the queue, an enqueuer inside a DisableQueueNotify scope, a plain enqueuer -/
def progsNV : List (List Call) := [[.wait, .process], [.dqnBegin, .enqueue, .dqnEnd], [.enqueue]]

/-- thread 0 parks on the empty queue; thread 1 enqueues event 0 silently and wakes thread 0 from
    its destructor; thread 2 enqueues event 1; thread 0 returns from `wait` and dispatches both -/
def schedNV : List (Tid × Nat) :=
  List.replicate 5 (0,1) ++ List.replicate 11 (1,0) ++ List.replicate 5 (2,0) ++ List.replicate 13 (0,1)

theorem C07_nonvacuous_wf : WF progsNV := by decide

theorem C07_nonvacuous_run :
    (let s := exec (init progsNV) (schedNV.take 5)
     s.threads.map (·.pc) = [.parked false, .idle, .idle] ∧ s.queue = []) ∧
    (let s := exec (init progsNV) (schedNV.take 16)
     s.threads.map (·.pc) = [.woken false false, .idle, .idle] ∧ s.queue = [0] ∧ s.nc = 0) ∧
    (let s := exec (init progsNV) schedNV
     Reach progsNV s ∧ s.threads.map finished = [true, true, true] ∧ s.queue = [] ∧ s.nc = 0 ∧
     s.threads.map (·.rets) = [[.unit, .bool true], [.unit, .unit, .unit], [.unit]] ∧
     s.consumed = [(0, .dispatched, 0), (1, .dispatched, 0)] ∧ checkJ s = true) :=
  ⟨by decide +kernel, by decide +kernel, ⟨⟨schedNV, rfl⟩, by decide +kernel⟩⟩

/-- the hypotheses of `C07_no_lost_wakeup` (all threads finished or parked, one parked) are
    satisfiable by a reachable state of a well-formed program: the waiter parked on an empty queue
    after everybody else has finished — there the conclusion holds because the queue is empty. -/
theorem C07_nonvacuous_terminal :
    let progs : List (List Call) := [[.enqueue, .process], [.wait, .process]]
    let s := exec (init progs) (List.replicate 20 (0,1) ++ List.replicate 5 (1,1))
    WF progs ∧ Reach progs s ∧ s.threads.map finished = [true, false] ∧
    s.threads.map isParked = [false, true] ∧ s.queue = [] ∧ s.nc = 0 :=
  ⟨by decide, ⟨_, rfl⟩, by decide +kernel⟩

/-! ### bridge to the source (regenerated on every run, Generated/QueueFrag.lean)

The theorems above are about the model with `dqnLocked = true`, `emptyQueue()` reading the list
before the counter and `doCanProcess()` evaluating `emptyQueue()` before the notify counter.  These
facts - and that the model's `nc` is the number of LIVE DisableQueueNotify objects: every constructor,
the copy constructor included, registers the object once and no special member hands a registration over
(D13) - are re-read from eventqueue.h / hetereventqueue.h on every run; if the source stops
decrementing under the mutex, reorders the reads or lets two objects share one registration, this theorem
no longer checks. -/
theorem C07_bridge_source :
    Evp.Gen.Queue.homo_dqnLocked = true ∧ Evp.Gen.Queue.homo_dqnCopyCounts = true ∧ Evp.Gen.Queue.homo_listFirst = true ∧
    Evp.Gen.Queue.homo_emptyFirst = true ∧ Evp.Gen.Queue.heter_listFirst = true ∧
    Evp.Gen.Queue.heter_emptyFirst = true := by decide

/-! ### `nc` is the number of live DisableQueueNotify objects (D13)

The model's `dqnBegin` / `dqnEnd` are "an object comes to life / goes away".  For the class itself
(Conc/DqnCount: constructions, copies and destructions in any order) that reading holds when the copy
constructor registers the copy - which is what `homo_dqnCopyCounts` re-reads from the source - and fails
for the implicit copy the class had. -/

/-- after any history of constructions, copies and destructions the library's counter is the number of
    live objects, so notification is enabled exactly when no DisableQueueNotify object is alive -/
theorem C07_dqn_counts_live (ops : List Evp.Dqn.Op) :
    (Evp.Dqn.run .registers {} ops).nc = ((Evp.Dqn.run .registers {} ops).live : Int) ∧
    ((Evp.Dqn.run .registers {} ops).nc = 0 ↔ (Evp.Dqn.run .registers {} ops).live = 0) :=
  have h := Evp.Dqn.counts_run ops {} rfl
  ⟨h, by unfold Evp.Dqn.Counts at h; omega⟩

/-- the class as it was (found on the real code, D13): construct, copy, destroy the copy — one object is alive
    and the counter is 0 (a wait during whose whole duration that object is alive returns); destroy the original
    as well — no object is alive and the counter is -1 (no enqueue notifies any more) -/
theorem C07_dqn_copy_counterexample :
    Evp.Dqn.run .shares {} [.construct, .copy, .destroy] = { nc := 0, live := 1 } ∧
    Evp.Dqn.run .shares {} [.construct, .copy, .destroy, .destroy] = { nc := -1, live := 0 } := by
  decide

end Evp.Conc
