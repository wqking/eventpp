import EventppVerif.Util.HeterSpawn
import EventppVerif.Properties.C14
/-
  Property C14 — queued events and listeners that enqueue while a processing call runs.

  "Queued events of different prototypes are each consumed exactly once in FIFO order by process and
  processOne, and processIf examines only events of prototypes its predicate is callable with,
  leaving every other event untouched, intact and in place."

  `stepS` (Util/HeterSpawn.lean) is one top-level operation whose listeners may enqueue.  "In place"
  has a consequence that the non-re-entrant theorems of C14.lean cannot see: the events that
  `processIf` does not consume (and the rest of the queue after `processOne`) must come back IN
  FRONT of the events enqueued while the call was running — otherwise an older event ends up
  behind a younger one and FIFO order is lost.
-/
namespace Evp.Heter

/-- **C14 (listeners that enqueue).**  For every operation: the listener calls and results are
    those of the non-re-entrant operation; so are the listener lists; and the queue is the queue
    the non-re-entrant operation leaves — every event in place and intact — followed by the
    events the listeners enqueued (each filed under the first listed prototype callable with its
    argument kind, carrying its key / kind / value). -/
theorem C14_spawn_in_place (sg : Sig) (sp : Spawn) (w : HW) (op : HOp) :
    (stepS sg sp w op).2 = (step sg w op).2 ∧
    (stepS sg sp w op).1.lists = (step sg w op).1.lists ∧
    ∃ added, (stepS sg sp w op).1.queue = (step sg w op).1.queue ++ added ∧
      added.length ≤ (spawnedOf sp (step sg w op).2).length ∧
      ∀ e ∈ added, ∃ x ∈ spawnedOf sp (step sg w op).2, e.key = x.1 ∧ e.kind = x.2.1 ∧ e.val = x.2.2 ∧
        firstMatch sg.nproto (fun p => sg.argOk p x.2.1) = some e.tag := by
  obtain ⟨added, h1, h2, h3⟩ := enqueueAll_prefix sg (spawnedOf sp (step sg w op).2) (step sg w op).1
  exact ⟨rfl, h2, added, h1, h3⟩

/-- **C14 (`processIf` puts back in front).**  With enqueuing listeners, after `processIf` the
    queue is: the events `processIf` did not consume — exactly as `C14_processIf_exact` describes
    them, in their original order — and behind them whatever was enqueued meanwhile. -/
theorem C14_spawn_processIf (sg : Sig) (sp : Spawn) (w : HW) (pkind m r : Nat) :
    ∃ added, (stepS sg sp w (.processIf pkind m r)).1.queue =
      (step sg w (.processIf pkind m r)).1.queue ++ added := by
  obtain ⟨_, _, added, h, _⟩ := C14_spawn_in_place sg sp w (.processIf pkind m r)
  exact ⟨added, h⟩

/-- `process` consumes everything that was queued when it started; what remains is exactly what
    the listeners enqueued -/
theorem C14_spawn_process (sg : Sig) (sp : Spawn) (w : HW) :
    ∃ added, (stepS sg sp w .process).1.queue = added ∧
      added.length ≤ (spawnedOf sp (step sg w .process).2).length := by
  obtain ⟨_, _, added, h, hl, _⟩ := C14_spawn_in_place sg sp w .process
  have hs : (step sg w .process).1.queue = [] := by
    by_cases hq : w.queue = []
    · rw [step_process_nil hq]; exact hq
    · rw [step_process_ne hq]
  exact ⟨added, by rw [h, hs, List.nil_append], hl⟩

/-- `processOne`: the rest of the queue stays in front of what the listeners of the consumed event
    enqueued -/
theorem C14_spawn_processOne (sg : Sig) (sp : Spawn) (w : HW) (e : HEvent) (rest : List HEvent)
    (hq : w.queue = e :: rest) :
    ∃ added, (stepS sg sp w .processOne).1.queue = rest ++ added := by
  obtain ⟨_, _, added, h, _⟩ := C14_spawn_in_place sg sp w .processOne
  exact ⟨added, by rw [h, step_processOne_cons hq]⟩

/-- listeners that enqueue nothing: the non-re-entrant model -/
theorem C14_spawn_none (sg : Sig) (w : HW) (op : HOp) :
    stepS sg (fun _ _ _ => none) w op = step sg w op := by
  have h : spawnedOf (fun _ _ _ => none) (step sg w op).2 = [] :=
    List.filterMap_eq_nil_iff.2 fun e _ => by cases e <;> rfl
  show (enqueueAll sg _ (spawnedOf _ (step sg w op).2), _) = _
  rw [h]; rfl

/-- the rule of harness/seq_heter.cpp: a listener whose callback id ends in 9, called with a value
    `v` with `v % 4 ≠ 3`, enqueues `(key, int, v + 1)` -/
def harnessSpawn : Spawn := fun key cb val =>
  if cb % 10 == 9 && val % 4 != 3 then some (key, 1, val + 1) else none

/-- string event 10, int event 9 (its listener 109 enqueues int 10 when called), Big event 12;
    `processIf` with an int predicate accepting everything: the int event is consumed, the string
    and Big events stay in place IN FRONT of the int event 10 enqueued by the listener. -/
example :
    (runS realSig harnessSpawn {} [.listen 1 1 109, .enqueue 1 2 10, .enqueue 1 1 9, .enqueue 1 3 12,
        .processIf 1 1 0]).1.queue =
      [⟨0, 1, 2, 2, 10⟩, ⟨2, 1, 3, 3, 12⟩, ⟨3, 1, 1, 1, 10⟩] := by
  decide +kernel

/-- The invocation in flight is not disturbed by a callback that empties the container: it reaches
    exactly the callbacks bound to the selected prototype, in their order, once each (the calls are
    those of `step`), the pending events are untouched, and afterwards every per-prototype list of
    that key is empty while the lists of every other key are as `stepS` left them. -/
theorem C14_clear_in_flight (sg : Sig) (sp : Spawn) (cl : Clear) (w : HW) (op : HOp) :
    (stepC sg sp cl w op).2 = (step sg w op).2 ∧
    (stepC sg sp cl w op).1.queue = (stepS sg sp w op).1.queue :=
  ⟨rfl, foldl_clearKey_queue sg.nproto _ _⟩

/-- Emptying the container of `key` (`clearKey`, applied by `stepC` once per clearing callback that ran):
    every per-prototype list of that key is empty, the lists of every other key are untouched. -/
theorem C14_cleared_lists (n : Nat) (w : HW) (key k p : Nat) (hp : p < 16) (hn : n ≤ 16) :
    (clearKey n w key).lists (slot k p) = if k = key ∧ p < n then default else w.lists (slot k p) := by
  have h : (∃ q ∈ List.range n, slot k p = slot key q) ↔ k = key ∧ p < n := by
    simp only [List.mem_range]
    constructor
    · rintro ⟨q, hq, h⟩
      obtain ⟨rfl, rfl⟩ := slot_inj hp (by omega) h
      exact ⟨rfl, hq⟩
    · rintro ⟨rfl, h⟩
      exact ⟨p, h, rfl⟩
  unfold clearKey
  rw [foldl_upd_get]
  simp only [h]

/-- the rule of harness/seq_heter.cpp: the stand-alone list is event key 7 of the model; a callback of it
    whose id ends in 8 assigns an empty list to it -/
def harnessClear : Clear := fun key cb => key == 7 && cb % 10 == 8

/-- non-vacuity: three int callbacks, the second empties the list while the invocation runs: all three
    are called, in order, and the list is empty for the next invocation -/
example :
    let w1 := (run realSig {} [.listen 7 1 101, .listen 7 1 108, .listen 7 1 103]).1
    let r := stepC realSig harnessSpawn harnessClear w1 (.dispatch 7 1 5)
    r.2 = [.call 7 1 0 101 1 5, .call 7 1 1 108 1 5, .call 7 1 2 103 1 5, .res "unit"] ∧
    (stepC realSig harnessSpawn harnessClear r.1 (.dispatch 7 1 6)).2 = [.res "unit"] := by
  -- by the theorems, not by evaluation: the kernel is slow on the first `upd` of the empty
  -- array-backed store at index `slot 7 1 = 113`
  have hcb : firstMatch realSig.nproto (fun p => realSig.cbOk 1 p) = some 1 := by decide
  have harg : firstMatch realSig.nproto (fun p => realSig.argOk p 1) = some 1 := by decide
  intro w1
  have hw1 : w1.lists (slot 7 1) = [⟨0, 101⟩, ⟨1, 108⟩, ⟨2, 103⟩] := by
    simp only [w1, run_cons, run_nil, step_listen_some hcb, upd_same]
    rfl
  have hs : (step realSig w1 (.dispatch 7 1 5)).2 =
      [.call 7 1 0 101 1 5, .call 7 1 1 108 1 5, .call 7 1 2 103 1 5, .res "unit"] := by
    rw [step_dispatch, dispatchEv_of_some harg, hw1]
    rfl
  have hc : (stepC realSig harnessSpawn harnessClear w1 (.dispatch 7 1 5)).1.lists (slot 7 1) = [] := by
    rw [stepC_fst, hs, show clearedKeys harnessClear _ = [7] from by decide]
    exact C14_cleared_lists _ _ 7 7 1 (by decide) (by decide)
  refine ⟨hs, ?_⟩
  rw [stepC_calls, step_dispatch, dispatchEv_of_some harg, hc]
  rfl

end Evp.Heter
