import EventppVerif.Util.AnyData
import EventppVerif.CL.ListLemmas
/-
  Property C17 — AnyData holds, moves and destroys its value like the value itself (partial: the
  C++ object mechanics — placement new, alignment, function-pointer identity — are abstracted;
  they are exercised by the correspondence run with ASan).

  The size split is the regenerated `Gen.AnyData.inlineCond / largeCond / effCap`.
-/
namespace Evp.AnyData
open Evp.Gen.AnyData

/-- For every object size and every template argument exactly one constructor is enabled, and the
    effective capacity is `max cap sizeof(LargeData)`. -/
theorem C17_partition (size cap szLarge : Nat) :
    (inlineCond size (effCap cap szLarge) = !largeCond size (effCap cap szLarge)) ∧
    effCap cap szLarge = max cap szLarge := by
  constructor
  · simp only [inlineCond, largeCond, gt_iff_lt, ← Nat.not_le, decide_not, Bool.not_not]
  · unfold effCap; split <;> omega

theorem mkShell_cases (cap szLarge size : Nat) (o : Obj) :
    mkShell cap szLarge size o = some (.inl o) ∨ mkShell cap szLarge size o = some (.large (some o)) := by
  have h := (C17_partition size cap szLarge).1
  unfold mkShell
  cases hl : largeCond size (effCap cap szLarge) <;> simp [h, hl]

/-- hence construction never fails to select a representation -/
theorem C17_ctor_total (cap szLarge size : Nat) (o : Obj) : (mkShell cap szLarge size o).isSome := by
  rcases mkShell_cases cap szLarge size o with h | h <;> rw [h] <;> rfl

/-! ### slots as a keyed list with a ledger -/

def heldTotal (l : List (Nat × Shell)) : Nat := (l.map (fun p => p.2.held)).sum

def Uniq (l : List (Nat × Shell)) : Prop := (l.map (·.1)).Nodup

structure Inv (s : St) : Prop where
  uniq : Uniq s.slots
  ledger : s.live = heldTotal s.slots

/-- `lookup` on the slot list alone -/
def lk (l : List (Nat × Shell)) (a : Nat) : Option Shell := (l.find? (fun p => p.1 == a)).map (·.2)

theorem lookup_eq (s : St) (a : Nat) : lookup s a = lk s.slots a := rfl

theorem lk_cons (x : Nat) (sh : Shell) (l : List (Nat × Shell)) (a : Nat) :
    lk ((x, sh) :: l) a = if x = a then some sh else lk l a := by
  unfold lk
  by_cases h : x = a <;> simp [h]

theorem lk_eq_none {l : List (Nat × Shell)} {a : Nat} : lk l a = none ↔ a ∉ l.map (·.1) := by
  induction l with
  | nil => simp [lk]
  | cons p r ih =>
    rw [lk_cons, List.map_cons, List.mem_cons, not_or, ← ih]
    split
    · rename_i h; exact ⟨nofun, fun hh => absurd h.symm hh.1⟩
    · rename_i h; exact ⟨fun hh => ⟨fun e => h e.symm, hh⟩, fun hh => hh.2⟩

theorem lk_erase (l : List (Nat × Shell)) (a c : Nat) :
    lk (erase l a) c = if c = a then none else lk l c := find?_key_filter l a c

theorem heldTotal_cons (x : Nat) (sh : Shell) (l : List (Nat × Shell)) :
    heldTotal ((x, sh) :: l) = sh.held + heldTotal l := by
  simp [heldTotal]

theorem erase_cons (x : Nat) (sh : Shell) (l : List (Nat × Shell)) (a : Nat) :
    erase ((x, sh) :: l) a = if x = a then erase l a else (x, sh) :: erase l a := by
  unfold erase
  rw [List.filter_cons]
  by_cases h : x = a <;> simp [h]

theorem erase_of_none {l : List (Nat × Shell)} {a : Nat} (h : lk l a = none) : erase l a = l :=
  List.filter_eq_self.2 fun q hq => bne_iff_ne.2 fun e => lk_eq_none.1 h (List.mem_map.2 ⟨q, hq, e⟩)

theorem heldTotal_erase {l : List (Nat × Shell)} {a : Nat} {sh : Shell} (hu : Uniq l)
    (ha : lk l a = some sh) : heldTotal l = heldTotal (erase l a) + sh.held := by
  induction l with
  | nil => cases ha
  | cons p r ih =>
    obtain ⟨x, sh'⟩ := p
    obtain ⟨hx, hu⟩ := List.nodup_cons.1 hu
    rw [lk_cons] at ha
    rw [erase_cons]
    by_cases hxa : x = a
    · rw [if_pos hxa] at ha ⊢
      cases ha
      rw [erase_of_none (lk_eq_none.2 (hxa ▸ hx)), heldTotal_cons, Nat.add_comm]
    · rw [if_neg hxa] at ha ⊢
      rw [heldTotal_cons, heldTotal_cons, ih hu ha, Nat.add_assoc]

theorem Inv.cons {l : List (Nat × Shell)} {n : Nat} (h : Inv ⟨l, n⟩) {a : Nat} (ha : lk l a = none)
    (sh : Shell) : Inv ⟨(a, sh) :: l, n + sh.held⟩ :=
  ⟨List.nodup_cons.2 ⟨lk_eq_none.1 ha, h.uniq⟩, by
    show n + _ = heldTotal _
    rw [heldTotal_cons, ← h.ledger, Nat.add_comm]⟩

theorem Inv.erase {l : List (Nat × Shell)} {n : Nat} (h : Inv ⟨l, n⟩) {a : Nat} {sh : Shell}
    (ha : lk l a = some sh) : Inv ⟨erase l a, n - sh.held⟩ ∧ sh.held ≤ n := by
  have e : n = heldTotal (AnyData.erase l a) + sh.held :=
    h.ledger.trans (heldTotal_erase h.uniq ha)
  exact ⟨⟨(List.filter_sublist.map _).nodup h.uniq, by rw [e]; exact Nat.add_sub_cancel ..⟩,
    e ▸ Nat.le_add_left _ _⟩

/-- what a client can observe of a shell: nothing if it has been moved from, else type and value -/
def Shell.view (sh : Shell) : Option (Nat × Nat) :=
  if sh.movedFrom then none else sh.obj?.map (fun o => (o.ty, o.val))

/-- two states look the same to a client: same slots, same views -/
def Same (s t : St) : Prop := ∀ a, (lookup s a).map Shell.view = (lookup t a).map Shell.view

theorem Shell.view_inl (o : Obj) : (Shell.inl o).view = if o.moved then none else some (o.ty, o.val) := by
  cases h : o.moved <;> simp [Shell.view, Shell.movedFrom, Shell.obj?, h]

theorem Shell.view_large (p : Option Obj) : (Shell.large p).view = p.map (fun o => (o.ty, o.val)) := by
  cases p <;> rfl

theorem mkShell_ok (cap szLarge size : Nat) (o : Obj) (hm : o.moved = false) :
    ∃ sh, mkShell cap szLarge size o = some sh ∧ sh.held = 1 ∧ sh.view = some (o.ty, o.val) := by
  rcases mkShell_cases cap szLarge size o with h | h
  · exact ⟨_, h, rfl, by rw [Shell.view_inl, hm]; rfl⟩
  · exact ⟨_, h, rfl, rfl⟩

/-- the two lookups of a name agree: absent in both, or present in both with the same view -/
theorem Same.slot {s t : St} (h : Same s t) (a : Nat) :
    lookup s a = none ∧ lookup t a = none ∨
      ∃ sh sh', lookup s a = some sh ∧ lookup t a = some sh' ∧ sh.view = sh'.view := by
  have := h a
  revert this
  cases lookup s a <;> cases lookup t a <;> intro this
  · exact .inl ⟨rfl, rfl⟩
  · cases this
  · cases this
  · exact .inr ⟨_, _, rfl, rfl, Option.some.inj this⟩

/-- the two ways the slots change keep two states looking the same -/
theorem Same.cons {s t : St} (h : Same s t) (a : Nat) {sh sh' : Shell} (hv : sh.view = sh'.view)
    (n n' : Nat) : Same ⟨(a, sh) :: s.slots, n⟩ ⟨(a, sh') :: t.slots, n'⟩ := fun c => by
  simp only [lookup_eq, lk_cons]
  split
  · rw [Option.map_some, Option.map_some, hv]
  · exact h c

theorem Same.erase {s t : St} (h : Same s t) (a n n' : Nat) :
    Same ⟨erase s.slots a, n⟩ ⟨erase t.slots a, n'⟩ := fun c => by
  simp only [lookup_eq, lk_erase]
  split
  · rfl
  · exact h c

section
variable {cap szLarge : Nat} {s : St}

theorem step_new_skip {a : Nat} (ty size val : Nat) {sh : Shell} (h : lookup s a = some sh) :
    step cap szLarge s (.new a ty size val) = (s, .skip) := by
  simp only [step, h]

theorem step_new_ok {a ty size val : Nat} {sh : Shell}
    (h : lookup s a = none) (hm : mkShell cap szLarge size ⟨ty, val, false⟩ = some sh) :
    step cap szLarge s (.new a ty size val) =
      ({ slots := (a, sh) :: s.slots, live := s.live + 1 }, .ok) := by
  simp only [step, h, hm]

theorem step_del_skip {a : Nat} (h : lookup s a = none) :
    step cap szLarge s (.del a) = (s, .skip) := by
  simp only [step, h]

theorem step_del_ok {a : Nat} {sh : Shell} (h : lookup s a = some sh) :
    step cap szLarge s (.del a) = ({ slots := erase s.slots a, live := s.live - sh.held }, .ok) := by
  simp only [step, h]

theorem step_move_skip {a b : Nat}
    (h : lookup s b ≠ none ∨ lookup s a = none) : step cap szLarge s (.move b a) = (s, .skip) := by
  simp only [step]
  rcases h with h | h
  · cases hb : lookup s b with
    | none => exact absurd hb h
    | some _ => cases lookup s a <;> rfl
  · rw [h]; cases lookup s b <;> rfl

/-- a successful move, in either representation; the ledger is given as a sum on both sides, so
    that no subtraction is needed before the invariant is known -/
theorem step_move_ok {a b : Nat} {sh : Shell} (hb : lookup s b = none)
    (ha : lookup s a = some sh) :
    ∃ (d r : Shell) (n : Nat),
      step cap szLarge s (.move b a) = ({ slots := (b, d) :: (a, r) :: erase s.slots a, live := n }, .ok) ∧
      d.view = sh.view ∧ r.view = none ∧ n + sh.held = s.live + d.held + r.held := by
  cases sh with
  | inl o =>
    exact ⟨.inl o, .inl { o with moved := true }, s.live + 1, by simp only [step, hb, ha], rfl,
      by simp [Shell.view_inl], rfl⟩
  | large p =>
    exact ⟨.large p, .large none, s.live, by simp only [step, hb, ha], rfl, rfl, rfl⟩

/-- what a read answers, as a function of what the client can observe of the slot -/
def readOut (g : Nat × Nat → Out) : Option (Option (Nat × Nat)) → Out
  | some (some p) => g p
  | _ => .skip

/-- the common shape of `get` and `isType` in `step` -/
theorem read_eq (s : St) (g : Nat × Nat → Out) (osh : Option Shell) :
    (match osh with
      | some sh => if sh.movedFrom then (s, Out.skip) else
        (match sh.obj? with
        | some o => (s, g (o.ty, o.val))
        | none => (s, .skip))
      | none => (s, .skip)) = (s, readOut g (osh.map Shell.view)) := by
  cases osh with
  | none => rfl
  | some sh =>
    cases sh with
    | inl o => cases hm : o.moved <;> simp [Shell.movedFrom, Shell.obj?, Shell.view, readOut, hm]
    | large p => cases p <;> simp [Shell.movedFrom, Shell.obj?, Shell.view, readOut]

theorem step_get (cap szLarge : Nat) (s : St) (a : Nat) :
    step cap szLarge s (.get a) = (s, readOut (fun p => .val p.2) ((lookup s a).map Shell.view)) :=
  read_eq s (fun p => .val p.2) (lookup s a)

theorem step_isType (cap szLarge : Nat) (s : St) (a ty : Nat) :
    step cap szLarge s (.isType a ty) =
      (s, readOut (fun p => .bool (p.1 == ty)) ((lookup s a).map Shell.view)) :=
  read_eq s (fun p => .bool (p.1 == ty)) (lookup s a)

end

/-- **Ledger invariant**: after any sequence of constructions, moves (also out of already
    moved-from objects), reads and destructions, the number of live payload objects equals the
    number of objects held by the existing `AnyData`s: nothing is leaked, nothing destroyed twice
    (the count never underflows: `del` subtracts exactly what the shell holds). -/
theorem C17_step_inv (cap szLarge : Nat) (s : St) (op : Op) (h : Inv s) : Inv (step cap szLarge s op).1 := by
  cases op with
  | new a ty size val =>
    cases hl : lookup s a with
    | some _ => rw [step_new_skip ty size val hl]; exact h
    | none =>
      obtain ⟨sh, hm, hheld, _⟩ := mkShell_ok cap szLarge size ⟨ty, val, false⟩ rfl
      rw [step_new_ok hl hm]
      exact hheld ▸ h.cons hl sh
  | move b a =>
    by_cases hskip : lookup s b ≠ none ∨ lookup s a = none
    · rw [step_move_skip hskip]; exact h
    · have hb : lookup s b = none := Classical.byContradiction fun e => hskip (.inl e)
      obtain ⟨sh, ha⟩ := Option.ne_none_iff_exists'.1 fun e => hskip (.inr e)
      obtain ⟨d, r, n, e, _, _, hn⟩ := step_move_ok (cap := cap) (szLarge := szLarge) hb ha
      obtain ⟨hi, hle⟩ := h.erase ha
      have hba : b ≠ a := fun e => by rw [e, ha] at hb; cases hb
      have := (hi.cons (a := a) (by rw [lk_erase, if_pos rfl]) r).cons (a := b)
        (by rw [lk_cons, if_neg (Ne.symm hba), lk_erase, if_neg hba]; exact hb) d
      rw [e]
      exact (by omega : s.live - sh.held + r.held + d.held = n) ▸ this
  | get a => rw [step_get]; exact h
  | isType a ty => rw [step_isType]; exact h
  | del a =>
    cases ha : lookup s a with
    | none => rw [step_del_skip ha]; exact h
    | some sh =>
      rw [step_del_ok ha]
      exact (h.erase ha).1

theorem C17_run_inv (cap szLarge : Nat) : ∀ (ops : List Op) (s : St), Inv s → Inv (run cap szLarge s ops).1
  | [], s, h => h
  | op :: r, s, h => by
    simp only [run]
    exact C17_run_inv cap szLarge r _ (C17_step_inv cap szLarge s op h)

/-- **No leak, exactly-once destruction**: whenever all `AnyData` objects are gone, no payload
    object is alive. -/
theorem C17_no_leak (cap szLarge : Nat) (ops : List Op) :
    (run cap szLarge {} ops).1.slots = [] → (run cap szLarge {} ops).1.live = 0 := by
  intro he
  have := (C17_run_inv cap szLarge ops {} ⟨.nil, rfl⟩).ledger
  rw [this, he]; rfl

/-- **Value and type**: a freshly constructed `AnyData` reads back the stored value, whatever the
    size; `isType` is true exactly for the stored type. -/
theorem C17_value (cap szLarge : Nat) (s : St) (a ty size val : Nat) (hfree : lookup s a = none) :
    let s1 := (step cap szLarge s (.new a ty size val)).1
    (step cap szLarge s1 (.get a)).2 = .val val ∧
    ∀ ty', (step cap szLarge s1 (.isType a ty')).2 = .bool (ty == ty') := by
  obtain ⟨sh, hm, _, hv⟩ := mkShell_ok cap szLarge size ⟨ty, val, false⟩ rfl
  simp only [step_new_ok hfree hm, step_get, step_isType, lookup_eq, lk_cons, if_pos,
    Option.map_some, hv]
  exact ⟨rfl, fun _ => rfl⟩

/-- **Move**: moving an `AnyData` moves the held object: the destination reads the value the source
    held (inline or heap alike). -/
theorem C17_move (cap szLarge : Nat) (s : St) (a b : Nat) (sh : Shell) (hb : lookup s b = none)
    (ha : lookup s a = some sh) (hm : sh.movedFrom = false) :
    let s1 := (step cap szLarge s (.move b a)).1
    (step cap szLarge s1 (.get b)).2 = (step cap szLarge s (.get a)).2 ∧
    (step cap szLarge s1 (.get a)).2 = .skip := by
  -- `hm` is not needed: from a moved-from source both reads are skipped (named for the linter)
  have _ := hm
  have hba : b ≠ a := fun e => by rw [e, ha] at hb; cases hb
  obtain ⟨d, r, n, e, hd, hr, _⟩ := step_move_ok (cap := cap) (szLarge := szLarge) hb ha
  simp only [e, step_get, lookup_eq]
  rw [lk_cons, if_pos rfl, lk_cons, if_neg hba, lk_cons, if_pos rfl, ← lookup_eq, ha]
  rw [Option.map_some, Option.map_some, Option.map_some, hd, hr]
  exact ⟨rfl, rfl⟩

/-- **One step looks the same** whatever the capacities: same answer, and the states still look the
    same to a client. -/
theorem C17_step_same (cap₁ szL₁ cap₂ szL₂ : Nat) (s t : St) (op : Op) (h : Same s t) :
    (step cap₁ szL₁ s op).2 = (step cap₂ szL₂ t op).2 ∧
    Same (step cap₁ szL₁ s op).1 (step cap₂ szL₂ t op).1 := by
  cases op with
  | new a ty size val =>
    rcases h.slot a with ⟨hs, ht⟩ | ⟨_, _, hs, ht, _⟩
    · obtain ⟨sh1, hm1, _, hv1⟩ := mkShell_ok cap₁ szL₁ size ⟨ty, val, false⟩ rfl
      obtain ⟨sh2, hm2, _, hv2⟩ := mkShell_ok cap₂ szL₂ size ⟨ty, val, false⟩ rfl
      rw [step_new_ok hs hm1, step_new_ok ht hm2]
      exact ⟨rfl, h.cons a (hv1.trans hv2.symm) _ _⟩
    · rw [step_new_skip ty size val hs, step_new_skip ty size val ht]
      exact ⟨rfl, h⟩
  | move b a =>
    rcases h.slot b with ⟨hbs, hbt⟩ | ⟨_, _, hbs, hbt, _⟩
    · rcases h.slot a with ⟨has, hat⟩ | ⟨sh1, sh2, has, hat, hv⟩
      · rw [step_move_skip (.inr has), step_move_skip (.inr hat)]
        exact ⟨rfl, h⟩
      · obtain ⟨d1, r1, n1, e1, hd1, hr1, _⟩ := step_move_ok (cap := cap₁) (szLarge := szL₁) hbs has
        obtain ⟨d2, r2, n2, e2, hd2, hr2, _⟩ := step_move_ok (cap := cap₂) (szLarge := szL₂) hbt hat
        rw [e1, e2]
        -- `Same` does not look at `live`: any numbers do for the ledgers of the intermediate states
        exact ⟨rfl, ((h.erase a 0 0).cons a (hr1.trans hr2.symm) 0 0).cons b
          (hd1.trans (hv.trans hd2.symm)) _ _⟩
    · rw [step_move_skip (.inl (hbs ▸ nofun)), step_move_skip (.inl (hbt ▸ nofun))]
      exact ⟨rfl, h⟩
  | get a =>
    rw [step_get, step_get]
    exact ⟨by simp only [h a], h⟩
  | isType a ty =>
    rw [step_isType, step_isType]
    exact ⟨by simp only [h a], h⟩
  | del a =>
    rcases h.slot a with ⟨hs, ht⟩ | ⟨_, _, hs, ht, _⟩
    · rw [step_del_skip hs, step_del_skip ht]
      exact ⟨rfl, h⟩
    · rw [step_del_ok hs, step_del_ok ht]
      exact ⟨rfl, h.erase a _ _⟩

theorem C17_run_same (cap₁ szL₁ cap₂ szL₂ : Nat) : ∀ (ops : List Op) (s t : St), Same s t →
    (run cap₁ szL₁ s ops).2 = (run cap₂ szL₂ t ops).2 ∧
    Same (run cap₁ szL₁ s ops).1 (run cap₂ szL₂ t ops).1
  | [], s, t, h => ⟨rfl, h⟩
  | op :: r, s, t, h => by
    have hstep := C17_step_same cap₁ szL₁ cap₂ szL₂ s t op h
    have hrec := C17_run_same cap₁ szL₁ cap₂ szL₂ r _ _ hstep.2
    simp only [run]
    exact ⟨by rw [hstep.1, hrec.1], hrec.2⟩

/-- **Size independence**: what a client observes (every answer of every operation, and what the
    final state looks like) does not depend on the capacity settings, i.e. on whether objects are
    stored inline or on the heap.  (The invariants are not needed for this; they are listed because
    the reachable states have them, and they are preserved, see `C17_run_inv`.) -/
theorem C17_size_independent (cap₁ szL₁ cap₂ szL₂ : Nat) (ops : List Op) (s t : St)
    (hst : Same s t) (_hs : Inv s) (_ht : Inv t) :
    (run cap₁ szL₁ s ops).2 = (run cap₂ szL₂ t ops).2 ∧
    Same (run cap₁ szL₁ s ops).1 (run cap₂ szL₂ t ops).1 :=
  C17_run_same cap₁ szL₁ cap₂ szL₂ ops s t hst

/-- from the empty state: any program gives the same answers under any two capacity settings -/
theorem C17_size_independent_init (cap₁ szL₁ cap₂ szL₂ : Nat) (ops : List Op) :
    (run cap₁ szL₁ {} ops).2 = (run cap₂ szL₂ {} ops).2 :=
  (C17_run_same cap₁ szL₁ cap₂ szL₂ ops {} {} (fun _ => rfl)).1

deriving instance DecidableEq for St

/-- Non-vacuity: capacity 16, a 24-byte object goes to the heap, an 8-byte one inline; both read
    back, moving keeps the value, destroying everything leaves no live object. -/
example :
    (run 16 16 {} [.new 0 1 24 77, .new 1 2 8 5, .move 2 0, .get 2, .get 0, .isType 2 1, .move 3 1, .get 3,
      .del 0, .del 1, .del 2, .del 3]) =
    ({ slots := [], live := 0 },
     [.ok, .ok, .ok, .val 77, .skip, .bool true, .ok, .val 5, .ok, .ok, .ok, .ok]) := by decide

end Evp.AnyData
