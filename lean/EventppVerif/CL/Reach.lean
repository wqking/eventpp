import EventppVerif.CL.WFOps
/-
  The nodes a list object retains (`Reach`): for a well-formed object exactly the nodes of its chain.
-/
namespace Evp

/-- The nodes a list object retains: those reachable from `head` / `tail` through `next` /
    `previous` links of retained nodes.  (In the source every link is a `shared_ptr`; a node that
    is not reachable from the object or from a running traversal's local `node` variable has
    reference count zero, i.e. has been destroyed together with its callback.) -/
inductive Reach (l : CL) : Nat → Prop
  | head {n} : l.head = some n → Reach l n
  | tail {n} : l.tail = some n → Reach l n
  | next {a n} : Reach l a → (l.heap a).next = some n → Reach l n
  | prev {a n} : Reach l a → (l.heap a).prev = some n → Reach l n

theorem WF.reach_mem {l L b n} (w : WF l L b) (h : Reach l n) : n ∈ L := by
  induction h with
  | head h => rw [w.head_eq] at h; exact List.mem_of_head? h
  | tail h => rw [w.tail_eq] at h; exact List.mem_of_getLast? h
  | next _ hx ih => exact w.next_mem ih hx
  | prev _ hx ih => exact w.prev_mem ih hx

theorem reach_of_seg {l : CL} : ∀ {xs : List Nat} {o : Option Nat}, Seg nextF l.heap o xs none →
    (∀ a, o = some a → Reach l a) → ∀ n ∈ xs, Reach l n
  | [], _, _, _, n, hn => by simp at hn
  | a :: r, o, hs, ho, n, hn => by
    simp only [Seg] at hs
    have ha : Reach l a := ho a hs.1
    rcases List.mem_cons.mp hn with rfl | hn
    · exact ha
    · exact reach_of_seg hs.2 (fun x hx => Reach.next ha hx) n hn

theorem WF.mem_reach {l L b n} (w : WF l L b) (h : n ∈ L) : Reach l n :=
  reach_of_seg w.fwd (fun _ ha => Reach.head ha) n h

theorem reach_empty {l : CL} (hh : l.head = none) (ht : l.tail = none) (n : Nat) : ¬ Reach l n := by
  intro h
  induction h with
  | head h => rw [hh] at h; cases h
  | tail h => rw [ht] at h; cases h
  | next _ _ ih => exact ih
  | prev _ _ ih => exact ih

end Evp
