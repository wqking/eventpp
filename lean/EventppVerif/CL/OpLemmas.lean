import EventppVerif.CL.Ahead
/-
  Per-operation lemmas: every Model operation on a list object that represents a Spec list
  yields an object representing the result of the Spec operation, and keeps every running
  traversal in correspondence.  `Added` treats `append` / `prepend` / `insert` as one operation
  (`getNextCounter`, then `Linked`) and records what it gives: `Rep`, the counters, the nodes ahead
  of a traversal, and that only live nodes and the fresh node are written (`Frame`).
-/
namespace Evp

theorem Rep.init {c M : Nat} (b : Nat) (hc : c < M) (hM : 2 ≤ M) : Rep { cur := c, M := M } [] b := by
  have h0 : ∀ n, (({} : Heap) n).counter = 0 := fun n => by rw [Store.empty_get]; rfl
  exact ⟨⟨List.nodup_nil, rfl, rfl, fun n => by simpa using h0 n, by simp, by simp, hc, hM, rfl⟩, by simp,
    fun n _ => h0 n⟩

theorem Rep.empty (b : Nat) : Rep {} [] b := Rep.init b (by decide) (by decide)

theorem Rep.mono {l SL b b'} (r : Rep l SL b) (h : b ≤ b') : Rep l SL b' :=
  ⟨r.wf.mono h, r.cbs, fun n hn => r.fresh n (Nat.le_trans h hn)⟩

theorem rep_isEmpty {l SL b} (r : Rep l SL b) : l.isEmpty = SL.isEmpty := by
  unfold CL.isEmpty
  rw [r.wf.head_eq]
  cases SL <;> simp

theorem rep_owns {l SL b} (r : Rep l SL b) (h : Hd) : l.owns (b + 1) h = SL.present h := by
  unfold CL.owns
  rw [← r.present_eq h]
  split
  · obtain ⟨P, Q, hPQ⟩ := List.append_of_mem ((r.wf.live h).mpr ‹_›)
    have w := hPQ ▸ r.wf
    obtain ⟨-, -, -, -, s5, s6⟩ := w.split
    have := walkPrev_seg (fuel := b + 1) (xs := h :: P.reverse) ⟨rfl, s5 ▸ s6⟩
      (by have := w.length_le; simp at this ⊢; omega)
    rw [this, w.head_eq, show h :: P.reverse = (P ++ [h]).reverse by simp, List.getLast?_reverse, head?_split,
      head?_split]
    simp [*]
  · simp [*]

/-! ### structural operations: `Rep` is preserved always (also across a counter wrap) -/

/-- `insert` tests the `before` handle the same way on both sides: to prove something of the two results, prove it
    of `linkBefore` / `insertBefore` for a handle that is in the list, and of `linkBack` / `append` -/
theorem Rep.insert_ind {l1 SL b} (r1 : Rep l1 SL b) {motive : CL → SList → Prop} {c : Nat} (id cb before)
    (hB : SL.present before = true → motive (l1.linkBefore id cb c before) (SL.insert id cb before))
    (hA : motive (l1.linkBack id cb c) (SL.append id cb)) :
    motive (if (l1.heap before).counter ≠ 0 then l1.linkBefore id cb c before else l1.linkBack id cb c)
      (SL.insert id cb before) := by
  have hp := r1.present_eq before
  split
  · exact hB (hp ▸ decide_eq_true ‹_›)
  · have : SL.present before = false := hp ▸ decide_eq_false ‹_›
    rw [SList.insert, this]
    exact hA

/-- the same for `remove` -/
theorem Rep.remove_ind {l SL b} (r : Rep l SL b) {motive : CL × Bool → SList × Bool → Prop} (h : Hd)
    (hT : SL.present h = true → motive (l.freeNode h, true) (SL.erase h, true))
    (hF : motive (l, false) (SL, false)) : motive (l.remove h) (SL.remove h) := by
  have hp := r.present_eq h
  unfold CL.remove SList.remove
  split
  · have : SL.present h = true := hp ▸ decide_eq_true ‹_›
    rw [this]
    exact hT this
  · have : SL.present h = false := hp ▸ decide_eq_false ‹_›
    rw [this]
    exact hF

/-- `l'` arises from `l` by an operation that writes only live nodes and the fresh node `id`
    (if any), never removes a node and leaves the fresh node live.  "Frame" as in frame rule: what the
    operation leaves alone (`Frame.of_linked`, `nextCounter_frame`, `Added.frame`, `Ranked.frame`).  The word has two
    other uses here: a frame of a machine's stack (`MFrame`, `SFrame`, `FrameSim`, `GStack.frame`), and the
    invariant of one running traversal (`FrameOK`, `FrameD`, `FrameSub`, with the lemmas `frame_*` about `FrameOK`
    below and `framed_*` about `FrameD` in CL/FrameSub.lean). -/
structure Frame (l l' : CL) (id : Option Nat) : Prop where
  /-- a node that is removed (and is not the fresh one) is not written -/
  fwd : ∀ a, (l.heap a).counter = 0 → id ≠ some a → l'.heap a = l.heap a
  /-- a node that is removed afterwards was removed before, and is not the fresh one -/
  bwd : ∀ a, (l'.heap a).counter = 0 → (l.heap a).counter = 0 ∧ id ≠ some a

theorem Frame.refl (l : CL) (id : Option Nat) (h : ∀ a, id = some a → (l.heap a).counter ≠ 0) :
    Frame l l id :=
  ⟨fun _ _ _ => rfl, fun a ha => ⟨ha, fun e => h a e ha⟩⟩

theorem Frame.trans {l l1 l2 : CL} {id} (f1 : Frame l l1 none) (f2 : Frame l1 l2 id) : Frame l l2 id := by
  refine ⟨fun a ha hid => ?_, fun a ha => ?_⟩
  · have e1 := f1.fwd a ha (by simp)
    rw [f2.fwd a (by rw [e1]; exact ha) hid, e1]
  · obtain ⟨h1, h2⟩ := f2.bwd a ha
    exact ⟨(f1.bwd a h1).1, h2⟩

theorem node_eq {x y : Node} (h1 : x.next = y.next) (h2 : x.prev = y.prev) (h3 : x.counter = y.counter)
    (h4 : x.cb = y.cb) : x = y := by
  cases x; cases y; simp_all

theorem nextCounter_frame {l L b} (w : WF l L b) : Frame l (l.nextCounter (b + 1)).1 none := by
  obtain ⟨_, _, _, hf⟩ := w.nextCounter
  refine ⟨fun a ha _ => ?_, fun a ha => ⟨(hf a).2.2.2.mp ha, nofun⟩⟩
  exact node_eq (hf a).1 (hf a).2.1 (((hf a).2.2.2.mpr ha).trans ha.symm) (hf a).2.2.1

/-- linking a node in (`Linked`: `linkBack`, `linkFront`, `linkBefore`) rewires two nodes of the chain, which
    are live, and writes the new node -/
theorem Frame.of_linked {l l' id cb c P Q b} (k : Linked l l' id cb c P Q) (w : WF l (P ++ Q) b)
    (hc0 : c ≠ 0) : Frame l l' (some id) := by
  refine ⟨fun a ha hne => ?_, fun a ha => ?_⟩
  · have hai : a ≠ id := fun e => hne (e ▸ rfl)
    have hL : a ∉ P ++ Q := fun hm => (w.live a).mp hm ha
    refine node_eq (k.frozen w ha hai) ?_ ?_ ?_
    · rw [k.prev, if_neg hai, if_neg]
      exact fun e => hL (List.mem_append_right _ (List.mem_of_head? e))
    · rw [k.counter, if_neg hai]
    · rw [k.cb, if_neg hai]
  · rw [k.counter] at ha
    split at ha
    · exact absurd ha hc0
    · next hai => exact ⟨ha, fun e => hai (Option.some.inj e).symm⟩

/-- `l'`, `SL'` arise from `l`, `SL` by `append`, `prepend` or `insert` of the fresh node `b`:
    `getNextCounter`, then the new node is linked in with the drawn generation. -/
structure Added (l : CL) (SL : SList) (b : Nat) (l' : CL) (SL' : SList) : Prop where
  rep : Rep l' SL' (b + 1)
  cur : l'.cur = (l.nextCounter (b + 1)).1.cur
  counter : ∀ a, (l'.heap a).counter =
    if a = b then (l.nextCounter (b + 1)).2 else ((l.nextCounter (b + 1)).1.heap a).counter
  ids : ∀ x, x ∈ SL'.ids ↔ x ∈ SL.ids ∨ x = b
  sub : ∀ e ∈ SL, e ∈ SL'
  ahead : ∀ {n Y}, Ahead l SL b n Y → ∃ Y', Ahead l' SL' (b + 1) n Y' ∧ InsAt b Y Y'
  frame : Frame l l' (some b)

theorem Added.of_linked {l SL b l' SL' cb P Q} (r : Rep l SL b)
    (k : Linked (l.nextCounter (b + 1)).1 l' b cb (l.nextCounter (b + 1)).2 P Q) (i : Inserted SL SL' b cb P Q) :
    Added l SL b l' SL' := by
  obtain ⟨r1, h1, h2⟩ := rep_nextCounter r
  refine ⟨k.rep i r1 (r1.fresh b (Nat.le_refl b)) h1 h2 (Nat.le_succ b) (Nat.lt_succ_self b), k.cur, k.counter,
    fun x => ?_, fun e he => (i.mem e).mpr (.inr he), fun a => (a.nextCounter r).linked k i r1,
    (nextCounter_frame r.wf).trans (.of_linked k (i.ids ▸ r1.wf) h1)⟩
  rw [i.ids', i.ids, mem_middle, or_comm]

theorem Added.present_old {l SL b l' SL'} (A : Added l SL b l' SL') {x : Nat} (hx : x < b) :
    SL'.present x = SL.present x := by
  rw [Bool.eq_iff_iff, SList.present_iff, SList.present_iff, A.ids]
  exact or_iff_left (Nat.ne_of_lt hx)

theorem added_append {l SL b} (r : Rep l SL b) (cb : Cb) :
    Added l SL b (l.append (b + 1) b cb) (SL.append b cb) :=
  have r1 := (rep_nextCounter r).1
  .of_linked r (r1.wf.linkBack_linked (r1.fresh b (Nat.le_refl b)) cb _) (SL.append_inserted b cb)

theorem added_prepend {l SL b} (r : Rep l SL b) (cb : Cb) :
    Added l SL b (l.prepend (b + 1) b cb) (SL.prepend b cb) :=
  have r1 := (rep_nextCounter r).1
  .of_linked r (r1.wf.linkFront_linked (r1.fresh b (Nat.le_refl b)) cb _) (SL.prepend_inserted b cb)

theorem added_insert {l SL b} (r : Rep l SL b) (cb : Cb) (before : Hd) :
    Added l SL b (l.insert (b + 1) b cb before) (SL.insert b cb before) := by
  have r1 := (rep_nextCounter r).1
  have hid := r1.fresh b (Nat.le_refl b)
  rw [insert_eq]
  refine r1.insert_ind (motive := Added l SL b) b cb before (fun hp => ?_)
    (.of_linked r (r1.wf.linkBack_linked hid cb _) (SL.append_inserted b cb))
  obtain ⟨P, Q, hPQ⟩ := List.append_of_mem (SList.present_iff.mp hp)
  exact .of_linked r ((hPQ ▸ r1.wf).linkBefore_linked hid cb _) (SList.insert_inserted b cb hPQ r.wf.nodup)

theorem rep_append {l SL b} (r : Rep l SL b) (cb : Cb) :
    Rep (l.append (b + 1) b cb) (SL.append b cb) (b + 1) := (added_append r cb).rep

theorem rep_prepend {l SL b} (r : Rep l SL b) (cb : Cb) :
    Rep (l.prepend (b + 1) b cb) (SL.prepend b cb) (b + 1) := (added_prepend r cb).rep

theorem rep_insert {l SL b} (r : Rep l SL b) (cb : Cb) (before : Hd) :
    Rep (l.insert (b + 1) b cb before) (SL.insert b cb before) (b + 1) := (added_insert r cb before).rep

theorem rep_remove {l SL b} (r : Rep l SL b) (h : Hd) :
    Rep (l.remove h).1 (SL.remove h).1 b ∧ (l.remove h).2 = (SL.remove h).2 :=
  r.remove_ind (motive := fun x y => Rep x.1 y.1 b ∧ x.2 = y.2) h (fun hp => ⟨rep_freeNode r hp, rfl⟩) ⟨r, rfl⟩

/-- copy construction / `cloneFrom` -/
theorem rep_clone {l SL b} (r : Rep l SL b) :
    Rep (l.clone (b + 1) b) (SL.cloneWith b) (b + SL.length) ∧
    (chainOf l.heap (b + 1) l.head).length = SL.length := by
  have hch := r.chain
  have hcbs : (chainOf l.heap (b + 1) l.head).map (fun n => (l.heap n).cb) = SL.map (·.cb) := by
    rw [← congrArg (List.map (·.cb)) r.abs, absList, List.map_map]
    rfl
  refine ⟨?_, by rw [hch]; simp [SList.ids]⟩
  have r0 : Rep { cur := 1, M := l.M } [] b := Rep.init b r.wf.m_ge r.wf.m_ge
  have := cloneChain_rep SL _ _ _ r0 (Nat.le_refl 1)
  have hh : (if (SL.map (·.cb)).isEmpty then none else some b) = (if SL = [] then none else some b) := by
    cases SL <;> rfl
  rw [clone_eq, hcbs, hh]
  simpa using this

/-- the moved-from object of a move assignment -/
theorem rep_moved_from {l SL b} (r : Rep l SL b) : Rep { cur := l.cur, M := l.M } [] b :=
  Rep.init b r.wf.cur_lt r.wf.m_ge

theorem rep_setCounter {l SL b} (r : Rep l SL b) (k : Nat) :
    Rep { l with cur := if 0 < k ∧ k ≤ l.M then max l.cur (l.M - k) else l.cur } SL b := by
  have := r.wf.cur_lt
  exact ⟨r.wf.cur_mono (by split <;> omega) (by split <;> omega), r.cbs, r.fresh⟩

theorem filter_present_erase (SL : SList) (h : Hd) (rest : List Entry) :
    (rest.filter (fun e => (SL.erase h).present e.id)).map (·.id) =
      ((rest.filter (fun e => SL.present e.id)).map (·.id)).filter (fun n => n != h) := by
  rw [List.filter_map, List.filter_filter]
  exact congrArg _ (List.filter_congr fun e _ => by simp [SList.present_erase, Bool.and_comm])

/-! ### running traversals stay in correspondence (no counter wrap in the operation) -/

theorem frameOK_iff {l SL b m cap rest} : FrameOK l SL b m cap rest ↔
    ∃ Y, Ahead l SL b m Y ∧ cap ≤ l.cur ∧
      Y.filter (fun n => decide ((l.heap n).counter ≤ cap)) = (rest.filter (fun e => SL.present e.id)).map (·.id) ∧
      (∀ e ∈ rest, SL.present e.id → e ∈ SL) ∧ (∀ e ∈ rest, e.id < b) := by
  constructor
  · rintro ⟨R, S, h1, h2, h3, h4, h⟩
    exact ⟨_, ⟨R, S, h1, h2, h3, h4, rfl⟩, h⟩
  · rintro ⟨_, ⟨R, S, h1, h2, h3, h4, rfl⟩, h⟩
    exact ⟨R, S, h1, h2, h3, h4, h⟩

theorem FrameOK.mono {l SL b b' m cap rest} (f : FrameOK l SL b m cap rest) (hb : b ≤ b') :
    FrameOK l SL b' m cap rest := by
  obtain ⟨Y, a, h5, h6, h7, h8⟩ := frameOK_iff.mp f
  exact frameOK_iff.mpr ⟨Y, a.mono hb, h5, h6, h7, fun e he => Nat.lt_of_lt_of_le (h8 e he) hb⟩

theorem FrameOK.cur_mono {l SL b m cap rest} (f : FrameOK l SL b m cap rest) (c : Nat) (hc : l.cur ≤ c) :
    FrameOK { l with cur := c } SL b m cap rest := by
  obtain ⟨Y, a, h5, h⟩ := frameOK_iff.mp f
  exact frameOK_iff.mpr ⟨Y, a.cur c, Nat.le_trans h5 hc, h⟩

theorem rep_nowrap {l SL b} (r : Rep l SL b) (nw : l.willWrap = false) :
    Rep { l with cur := l.cur + 1 } SL b := by
  have := (rep_nextCounter r).1
  rw [nextCounter_nowrap nw] at this
  exact this

/-- `append` / `prepend` / `insert` without a wrap: the new node's generation is above the captured one, so the
    guard skips it -/
theorem frame_added {l SL b l' SL' m cap rest} (r : Rep l SL b) (A : Added l SL b l' SL')
    (nw : l.willWrap = false) (f : FrameOK l SL b m cap rest) : FrameOK l' SL' (b + 1) m cap rest := by
  obtain ⟨Y, a, h5, h6, h7, h8⟩ := frameOK_iff.mp f
  obtain ⟨Y', a', hY⟩ := A.ahead a
  have hcnt : ∀ x, (l'.heap x).counter = if x = b then l.cur + 1 else (l.heap x).counter := fun x => by
    rw [A.counter, nextCounter_nowrap nw]
  have hpres : ∀ e ∈ rest, SL'.present e.id = SL.present e.id := fun e he => A.present_old (h8 e he)
  refine frameOK_iff.mpr ⟨Y', a', ?_, ?_, fun e he hp => A.sub e (h7 e he (hpres e he ▸ hp)),
    fun e he => Nat.lt_succ_of_lt (h8 e he)⟩
  · rw [A.cur, nextCounter_nowrap nw]
    exact Nat.le_succ_of_le h5
  · rw [hY.filter (q := fun n => decide ((l.heap n).counter ≤ cap)) ?_ fun x hx => ?_, h6]
    · exact congrArg _ (List.filter_congr fun e he => (hpres e he).symm)
    · rw [hcnt, if_pos rfl]
      exact decide_eq_false (Nat.not_le_of_lt (Nat.lt_succ_of_le h5))
    · rw [hcnt, if_neg (Nat.ne_of_lt (r.wf.lt x (a.suffix.subset hx)))]

theorem frame_freeNode {l SL b m cap rest h} (r : Rep l SL b) (f : FrameOK l SL b m cap rest)
    (hp : SL.present h = true) : FrameOK (l.freeNode h) (SL.erase h) b m cap rest := by
  obtain ⟨Y, a, h5, h6, h7, h8⟩ := frameOK_iff.mp f
  refine frameOK_iff.mpr ⟨_, a.freeNode r hp, (freeNode_cur l h).symm ▸ h5, ?_, fun e he hpe => ?_, h8⟩
  · rw [filter_present_erase, ← h6, List.filter_filter, List.filter_filter]
    refine List.filter_congr fun a _ => ?_
    by_cases hah : a = h <;> simp [freeNode_counter, hah, Bool.and_comm]
  · rw [SList.present_erase, Bool.and_eq_true] at hpe
    exact SList.mem_erase.mpr ⟨h7 e he hpe.1, by simpa using hpe.2⟩

theorem frame_remove {l SL b m cap rest} (r : Rep l SL b) (f : FrameOK l SL b m cap rest) (h : Hd) :
    FrameOK (l.remove h).1 (SL.remove h).1 b m cap rest :=
  r.remove_ind (motive := fun x y => FrameOK x.1 y.1 b m cap rest) h (frame_freeNode r f) f

/-- The skip loop and the Spec's `dropWhile` agree.  `Y` is the part of the live chain the traversal can still
    reach from the pointer `start`; if what `seek` finds from `start` is the first node of `Y` with a generation
    at most `cap`, and those nodes are the remaining snapshot entries that are still in the list, then the node
    found is the Spec's next entry, and standing on it the traversal is again in correspondence. -/
theorem frame_next {l SL b cap} {rest : List Entry} {Y : List Nat} {start : Option Nat} (r : Rep l SL b)
    (hY : Y <:+ SL.ids) (h5 : cap ≤ l.cur)
    (h6 : Y.filter (fun n => decide ((l.heap n).counter ≤ cap)) = (rest.filter (fun e => SL.present e.id)).map (·.id))
    (h7 : ∀ e ∈ rest, SL.present e.id → e ∈ SL) (h8 : ∀ e ∈ rest, e.id < b)
    (hseek : seek l.heap cap (b + 1) start = ((rest.filter (fun e => SL.present e.id)).map (·.id)).head?) :
    match rest.dropWhile (fun e => !SL.present e.id) with
    | [] => seek l.heap cap (b + 1) start = none
    | e :: es => seek l.heap cap (b + 1) start = some e.id ∧ (l.heap e.id).cb = e.cb ∧
        FrameOK l SL b e.id cap es := by
  cases hd : rest.dropWhile (fun e => !SL.present e.id) with
  | nil =>
    rw [hseek, dropWhile_not_nil (p := fun e : Entry => SL.present e.id) hd]
    rfl
  | cons e es =>
    obtain ⟨d1, d2, d3, d4⟩ := dropWhile_not_cons (p := fun e : Entry => SL.present e.id) hd
    rw [d2] at hseek h6
    refine ⟨hseek, r.cbs e (h7 e d3 d1), ?_⟩
    obtain ⟨l₁, l₂, hl, -, -, hl₂⟩ := List.filter_eq_cons_iff.mp h6
    exact ⟨[], e.id :: l₂, List.IsSuffix.trans ⟨l₁, hl.symm⟩ hY, by simp, by simp, rfl, h5, hl₂,
      fun x hx => h7 x (d4 x hx), fun x hx => h8 x (d4 x hx)⟩

/-- start of a traversal: read `head`, capture `cur`, skip to the first callable node -/
theorem frame_start {l SL b} (r : Rep l SL b) :
    match SL.dropWhile (fun e => !SL.present e.id) with
    | [] => seek l.heap l.cur (b + 1) l.head = none
    | e :: es => seek l.heap l.cur (b + 1) l.head = some e.id ∧ (l.heap e.id).cb = e.cb ∧
        FrameOK l SL b e.id l.cur es := by
  have w := r.wf
  have e1 : SL.filter (fun e => SL.present e.id) = SL :=
    List.filter_eq_self.mpr fun e he => SList.present_iff.mpr (SList.mem_ids_of_mem he)
  have e2 : SL.ids.filter (fun n => decide ((l.heap n).counter ≤ l.cur)) = SL.ids :=
    List.filter_eq_self.mpr fun a ha => decide_eq_true (w.cnt a ha)
  refine frame_next r (List.suffix_refl _) (Nat.le_refl _) (e1.symm ▸ e2) (fun _ he _ => he)
    (fun e he => w.lt _ (SList.mem_ids_of_mem he)) ?_
  rw [seek_seg w.fwd (Nat.lt_succ_of_le w.length_le), ← List.head?_filter, e1]
  exact congrArg List.head? ((List.filter_congr fun a ha => guard_live ((w.live a).mp ha)).trans e2)

/-- one step of a traversal: read `m.next`, skip to the next callable node -/
theorem frame_step {l SL b m cap rest} (r : Rep l SL b) (f : FrameOK l SL b m cap rest) :
    match rest.dropWhile (fun e => !SL.present e.id) with
    | [] => seek l.heap cap (b + 1) (l.heap m).next = none
    | e :: es => seek l.heap cap (b + 1) (l.heap m).next = some e.id ∧ (l.heap e.id).cb = e.cb ∧
        FrameOK l SL b e.id cap es := by
  obtain ⟨Y, a, h5, h6, h7, h8⟩ := frameOK_iff.mp f
  exact frame_next r a.suffix h5 h6 h7 h8 (h6 ▸ a.seek_eq r cap)

end Evp
