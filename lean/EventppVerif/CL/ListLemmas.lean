/-
  Pure list facts (no heap, no Spec list): duplicate-freeness, splitting at an element, filters, and what
  `dropWhile (not p)` — the skip of the Spec machine's `seekCall` — has to do with `filter p`.
-/
namespace Evp

theorem nodup_lt_length (b : Nat) (L : List Nat) (hn : L.Nodup) (hl : ∀ n ∈ L, n < b) : L.length ≤ b :=
  List.length_range (n := b) ▸ hn.length_le_of_subset fun n h => List.mem_range.mpr (hl n h)

theorem nodup_filter {α} {p : α → Bool} {L : List α} (h : L.Nodup) : (L.filter p).Nodup :=
  List.Nodup.sublist List.filter_sublist h

theorem nodup_suffix {α} {S L : List α} (hs : S <:+ L) (h : L.Nodup) : S.Nodup :=
  List.Nodup.sublist hs.sublist h

theorem nodup_reverse' {α} {L : List α} (h : L.Nodup) : L.reverse.Nodup :=
  (List.reverse_perm L).nodup_iff.mpr h

theorem getLast?_split {α} (P Q : List α) (n : α) :
    (P ++ n :: Q).getLast? = if Q = [] then some n else Q.getLast? := by
  rcases List.eq_nil_or_concat Q with rfl | ⟨Q', q, rfl⟩
  · simp
  · simp [List.concat_eq_append, List.getLast?_append, List.getLast?_cons]

theorem head?_split {α} (P Q : List α) (n : α) :
    (P ++ n :: Q).head? = if P = [] then some n else P.head? := by
  cases P <;> simp

theorem mem_middle {α} {a x : α} {P Q : List α} : a ∈ P ++ x :: Q ↔ a = x ∨ a ∈ P ++ Q := by
  simp only [List.mem_append, List.mem_cons]
  exact or_left_comm

theorem nodup_middle_iff {P Q : List Nat} {a} : (P ++ a :: Q).Nodup ↔ a ∉ P ++ Q ∧ (P ++ Q).Nodup := by
  rw [List.perm_middle.nodup_iff, List.nodup_cons]

theorem nodup_split {P Q : List Nat} {n} (h : (P ++ n :: Q).Nodup) :
    P.Nodup ∧ Q.Nodup ∧ n ∉ P ∧ n ∉ Q ∧ (∀ a ∈ P, a ∉ Q) ∧ (P ++ Q).Nodup := by
  obtain ⟨hn, h6⟩ := nodup_middle_iff.mp h
  obtain ⟨h1, h2, h3⟩ := List.nodup_append.mp h6
  exact ⟨h1, h2, fun hm => hn (List.mem_append_left _ hm), fun hm => hn (List.mem_append_right _ hm),
    fun a ha hq => h3 a ha a hq rfl, h6⟩

theorem filter_ne_self {Y : List Nat} {h : Nat} (hn : h ∉ Y) : Y.filter (fun n => n != h) = Y := by
  rw [List.filter_eq_self]; intro a ha; simp; exact fun e => hn (e ▸ ha)

theorem filter_ne_split {P Q : List Nat} {h : Nat} (hp : h ∉ P) (hq : h ∉ Q) :
    (P ++ h :: Q).filter (fun n => n != h) = P ++ Q := by
  simp [List.filter_append, filter_ne_self hp, filter_ne_self hq]

theorem filter_insert_fresh {A B : List Nat} {q q' : Nat → Bool} {x : Nat} (hx : q' x = false)
    (hq : ∀ a ∈ A ++ B, q' a = q a) : (A ++ x :: B).filter q' = (A ++ B).filter q := by
  rw [List.filter_append, List.filter_cons, hx]
  simp only [Bool.false_eq_true, if_false]
  rw [← List.filter_append]
  exact List.filter_congr hq

theorem filter_dropWhile_not {α} (p : α → Bool) : ∀ rest : List α,
    (rest.dropWhile (fun e => !p e)).filter p = rest.filter p
  | [] => rfl
  | x :: r => by
    rw [List.dropWhile_cons]
    split
    · next hx =>
      rw [filter_dropWhile_not p r, List.filter_cons, if_neg]
      simpa using hx
    · rfl

theorem dropWhile_not_nil {α} {p : α → Bool} {rest : List α} (h : rest.dropWhile (fun e => !p e) = []) :
    rest.filter p = [] := by
  rw [← filter_dropWhile_not, h]
  rfl

theorem dropWhile_not_cons {α} {p : α → Bool} {e : α} {es rest : List α}
    (h : rest.dropWhile (fun e => !p e) = e :: es) :
    p e = true ∧ rest.filter p = e :: es.filter p ∧ e ∈ rest ∧ ∀ x ∈ es, x ∈ rest := by
  have hp : p e = true := by
    have := List.head?_dropWhile_not (fun e => !p e) rest
    rw [h] at this
    simpa using this
  have hs : e :: es <:+ rest := h ▸ List.dropWhile_suffix _
  exact ⟨hp, by rw [← filter_dropWhile_not, h, List.filter_cons, if_pos hp], hs.subset (by simp),
    fun x hx => hs.subset (by simp [hx])⟩

/-- lookup under a key after the removal of a key, for lists of pairs keyed by their first component (the live
    removers of Util/Removers.lean, the slots of Util/AnyData.lean) -/
theorem find?_key_filter {α : Type} (R : List (Nat × α)) (r a : Nat) :
    ((R.filter (fun p => p.1 != r)).find? (fun p => p.1 == a)).map (·.2) =
      if a = r then none else (R.find? (fun p => p.1 == a)).map (·.2) := by
  rw [List.find?_filter]
  split
  · rename_i e
    rw [List.find?_eq_none.mpr fun p _ => by simp [e]]; rfl
  · rename_i e
    congr 2
    funext p
    by_cases h : p.1 = a
    · simp [h, e]
    · simp [h]

end Evp
