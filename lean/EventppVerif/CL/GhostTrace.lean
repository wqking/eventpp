import EventppVerif.CL.FrameSub
/-
  The ghost field `Ghost.called` is the sequence of `.call` events of the trace.

  `gstep` (CL/FrameSub.lean) appends `n'` to `called` of the top ghost record in the branches in
  which `MCfg.seekCall` emits `.call ⟨l, n', …⟩`.  This file proves that the two really agree, at
  every nesting depth, along every run.

  Nested traversals (a callback that invokes the same or another list) write into the same trace,
  so the `.call` events of one traversal are interleaved with those of the traversals its callbacks
  start.  The trace alone does not say who emitted an event (`.call a, .call b, .res unit, .res unit`
  is both "b is called by a traversal started inside a" and "a returns, b is called next and runs a
  command").  So the trace is annotated, in lock-step, with the *emitter* of every event:

  * `emitDepth m` — for the step that `MCfg.step` takes from `m`: if it is a step of a traversal
    (the frame `.iter …` under the returning callback, or the `.iter` frame that `invoke` / `enum`
    is about to push), the number of stack frames *under* that `.iter` frame.  While a traversal
    runs the frames under it do not change, and every traversal nested in it sits strictly higher,
    so this number identifies the traversal among all events emitted during its life time.
  * `astep m m' ann` — one annotation (`emitDepth m`) per event that the step `m → m'` appended to
    the trace; `ann` is kept newest first, parallel to `m.trace`.
  * `kstep m ks` — the *marks*: one per running traversal, the length of the trace when the
    traversal started (so the events of its life time are the `trace.length - mark` newest ones).

  `TInv m gs ks ann`: `ann` is as long as the trace, and for every running traversal
  `.iter l n cap arg ho` with `d` frames under it, ghost record `g` and mark `k`:
      `g.called = emittedBy d (since k (m.trace.zip ann))`
  — the handles, oldest first, of the `.call` events after the mark whose emitter is `d` —, and all
  those events are calls `⟨l, _, _, arg, ho⟩`.  `tinv_step`: every step of every behaviour keeps it.

  The last part follows one traversal from its start to a later state (`Follow`, `inst_runN`): as
  long as its frame stays on the stack, its ghost record keeps `born` and `snap` and its mark, which
  are the world's id bound, the list content and the trace length at the start.
-/
namespace Evp

/-- the handle called by a `.call` event -/
def Ev.callNode? : Ev → Option Nat
  | .call c => some c.h
  | .res _ => none

/-- Who emits the event of the step that `MCfg.step` takes from `m`: for a traversal step the
    number of frames under the traversal's `.iter` frame (for `invoke` / `enum`: under the frame
    that is pushed, i.e. the suspended program `.wait k` and everything under it).  Other steps
    only emit `.res` events; their annotation is immaterial (0): it may coincide with the emitter of a
    traversal, but `emittedBy` reads `.call` events only (the first alternative of `TStack.push`). -/
def emitDepth (m : MCfg) : Nat :=
  match m.stack with
  | .prog (.ret _) :: .iter _ _ _ _ _ :: below => below.length
  | .prog (.op (.invoke _ _) _) :: rest => rest.length + 1
  | .prog (.op (.enum _ _) _) :: rest => rest.length + 1
  | _ => 0

/-- the annotation after the step `m → m'`: every event that the step appended is annotated with
    `emitDepth m` -/
def astep (m m' : MCfg) (ann : List Nat) : List Nat :=
  List.replicate (m'.trace.length - m.trace.length) (emitDepth m) ++ ann

theorem astep_same {m m' : MCfg} (ann : List Nat) (h : m'.trace = m.trace) : astep m m' ann = ann := by
  unfold astep; rw [h]; simp

theorem astep_cons {m m' : MCfg} (ann : List Nat) {e : Ev} (h : m'.trace = e :: m.trace) :
    astep m m' ann = emitDepth m :: ann := by
  unfold astep; rw [h]
  have : (e :: m.trace).length - m.trace.length = 1 := by simp
  rw [this]; rfl

theorem emitDepth_ret_iter {m : MCfg} {v l n cap arg honour below}
    (h : m.stack = .prog (.ret v) :: .iter l n cap arg honour :: below) : emitDepth m = below.length := by
  unfold emitDepth; rw [h]
theorem emitDepth_start {m : MCfg} {l arg ho k rest}
    (h : m.stack = .prog (.op (bif ho then .enum l arg else .invoke l arg) k) :: rest) :
    emitDepth m = rest.length + 1 := by
  unfold emitDepth; rw [h]; cases ho <;> rfl


def kstart (m : MCfg) (l : Nat) (ks : List Nat) : List Nat :=
  match seek (m.lists l).heap (m.lists l).cur m.fuel (m.lists l).head with
  | none => ks
  | some _ => m.trace.length :: ks

def knext (m : MCfg) (l n cap : Nat) (ks : List Nat) : List Nat :=
  match seek (m.lists l).heap cap m.fuel ((m.lists l).heap n).next with
  | none => ks.tail
  | some _ => ks

/-- The marks after the step that `MCfg.step` takes from `m` (same shape as `gstep`): a traversal
    that starts gets the current trace length as its mark, a traversal that ends is popped. -/
def kstep (m : MCfg) (ks : List Nat) : List Nat :=
  match m.stack with
  | .prog (.ret v) :: .iter l n cap _ honour :: _ =>
    if honour && !v then ks.tail else knext m l n cap ks
  | .prog (.op (.invoke l _) _) :: _ => kstart m l ks
  | .prog (.op (.enum l _) _) :: _ => kstart m l ks
  | _ => ks

theorem kstep_ret {m : MCfg} {ks v rest} (h : m.stack = .prog (.ret v) :: rest)
    (hni : ∀ l n cap arg ho below, rest ≠ .iter l n cap arg ho :: below) : kstep m ks = ks := by
  unfold kstep; rw [h]
  split
  · next e => injection e with _ e; exact absurd e (hni _ _ _ _ _ _)
  all_goals first | rfl | (next e => cases e)
theorem kstep_ret_iter {m : MCfg} {ks v l n cap arg honour below}
    (h : m.stack = .prog (.ret v) :: .iter l n cap arg honour :: below) :
    kstep m ks = if honour && !v then ks.tail else knext m l n cap ks := by
  unfold kstep; rw [h]
theorem kstep_start {m : MCfg} {ks l arg ho k rest}
    (h : m.stack = .prog (.op (bif ho then .enum l arg else .invoke l arg) k) :: rest) :
    kstep m ks = kstart m l ks := by
  unfold kstep; rw [h]; cases ho <;> rfl
theorem kstep_op {m : MCfg} {ks cmd k rest} (h : m.stack = .prog (.op cmd k) :: rest)
    (ht : cmd.traverses = false) : kstep m ks = ks := by
  unfold kstep; rw [h]
  cases cmd <;> first | rfl | cases ht

/-- the part of a (newest first) trace that was appended after it had length `k` -/
def since {α : Type} (k : Nat) (tr : List α) : List α := tr.take (tr.length - k)

/-- From a segment of the annotated trace (newest first): the handles of the `.call` events whose
    emitter is `d`, oldest first. -/
def emittedBy (d : Nat) (seg : List (Ev × Nat)) : List Nat :=
  seg.reverse.filterMap (fun p => if p.2 = d then p.1.callNode? else none)

theorem since_cons {α : Type} {k : Nat} {tr : List α} (h : k ≤ tr.length) (x : α) :
    since k (x :: tr) = x :: since k tr := by
  unfold since
  rw [List.length_cons, Nat.succ_sub h, List.take_succ_cons]

theorem since_zip_length {α β : Type} {tr : List α} {ann : List β} (hl : ann.length = tr.length) :
    since tr.length (tr.zip ann) = [] := by
  unfold since
  rw [List.length_zip, hl]
  simp

theorem since_zip_cons {α β : Type} {tr : List α} {ann : List β} (hl : ann.length = tr.length) {k : Nat}
    (hk : k ≤ tr.length) (e : α) (a : β) :
    since k ((e :: tr).zip (a :: ann)) = (e, a) :: since k (tr.zip ann) := by
  rw [List.zip_cons_cons]
  exact since_cons (by rw [List.length_zip, hl]; simpa using hk) _

theorem emittedBy_cons (d : Nat) (p : Ev × Nat) (seg : List (Ev × Nat)) :
    emittedBy d (p :: seg) = emittedBy d seg ++ (if p.2 = d then p.1.callNode? else none).toList := by
  unfold emittedBy
  rw [List.reverse_cons, List.filterMap_append]
  congr 1

/-- `gs` (ghost records) and `ks` (marks) have one entry per running traversal of the stack, in
    stack order; `called` of each record is the sequence of handles of the `.call` events emitted by
    that traversal (emitter = number of frames under it) since its mark, and all these events are
    calls of this traversal's list, with its argument and flag. -/
inductive TStack (tr : List Ev) (ann : List Nat) : List MFrame → List Ghost → List Nat → Prop
  | nil : TStack tr ann [] [] []
  | prog (p : Prog) {st gs ks} : TStack tr ann st gs ks → TStack tr ann (.prog p :: st) gs ks
  | wait (k : Res → Prog) {st gs ks} : TStack tr ann st gs ks → TStack tr ann (.wait k :: st) gs ks
  | iter {l n cap arg ho} {g : Ghost} {k : Nat} {st gs ks} :
      k ≤ tr.length →
      g.called = emittedBy st.length (since k (tr.zip ann)) →
      (∀ c, (Ev.call c, st.length) ∈ since k (tr.zip ann) → c.list = l ∧ c.arg = arg ∧ c.enum = ho) →
      TStack tr ann st gs ks → TStack tr ann (.iter l n cap arg ho :: st) (g :: gs) (k :: ks)

theorem TStack.prog_inv {tr ann p st gs ks} (h : TStack tr ann (.prog p :: st) gs ks) :
    TStack tr ann st gs ks := by
  cases h; assumption

theorem TStack.wait_inv {tr ann k st gs ks} (h : TStack tr ann (.wait k :: st) gs ks) :
    TStack tr ann st gs ks := by
  cases h; assumption

theorem TStack.iter_inv {tr ann l n cap arg ho st gs ks} (h : TStack tr ann (.iter l n cap arg ho :: st) gs ks) :
    ∃ g gs' k ks', gs = g :: gs' ∧ ks = k :: ks' ∧ k ≤ tr.length ∧
      g.called = emittedBy st.length (since k (tr.zip ann)) ∧
      (∀ c, (Ev.call c, st.length) ∈ since k (tr.zip ann) → c.list = l ∧ c.arg = arg ∧ c.enum = ho) ∧
      TStack tr ann st gs' ks' := by
  cases h with
  | iter h1 h2 h3 h4 => exact ⟨_, _, _, _, rfl, rfl, h1, h2, h3, h4⟩

/-- a new event whose emitter is not one of the traversals of `st` (it is a `.res`, or its emitter
    sits at least `st.length` high) leaves their ties alone -/
theorem TStack.push {tr ann st gs ks} (h : TStack tr ann st gs ks) (hl : ann.length = tr.length)
    (e : Ev) (a : Nat) (ha : e.callNode? = none ∨ st.length ≤ a) :
    TStack (e :: tr) (a :: ann) st gs ks := by
  induction h with
  | nil => exact .nil
  | prog p _ ih => exact .prog p (ih (ha.imp id (fun h => Nat.le_of_succ_le h)))
  | wait k _ ih => exact .wait k (ih (ha.imp id (fun h => Nat.le_of_succ_le h)))
  | @iter l n cap arg ho g k st gs ks hk hc hev _ ih =>
    have hs := since_zip_cons hl hk e a
    have hnot : (if a = st.length then e.callNode? else none) = none := by
      rcases ha with ha | ha
      · rw [ha]; simp
      · have : a ≠ st.length := by simp at ha; omega
        rw [if_neg this]
    refine .iter (Nat.le_succ_of_le hk) ?_ ?_ (ih (ha.imp id (fun h => Nat.le_of_succ_le h)))
    · rw [hs, emittedBy_cons]
      simp only [hnot, Option.toList_none, List.append_nil]
      exact hc
    · intro c hc'
      rw [hs] at hc'
      rcases List.mem_cons.mp hc' with heq | hc'
      · exfalso
        injection heq with h1 h2
        subst h1
        rw [if_pos h2.symm] at hnot
        cases hnot
      · exact hev c hc'


/-- the traversal standing on top of `below` (its calls so far: `called`, since mark `k`) emits a
    call of `n'`: the record `g` of the frame that now stands on `n'` has `n'` appended -/
theorem TStack.emit {tr ann below gs ks} (hb : TStack tr ann below gs ks) (hl : ann.length = tr.length)
    {k : Nat} (hk : k ≤ tr.length) {called : List Nat} {l arg : Nat} {ho : Bool}
    (hc : called = emittedBy below.length (since k (tr.zip ann)))
    (hev : ∀ c, (Ev.call c, below.length) ∈ since k (tr.zip ann) → c.list = l ∧ c.arg = arg ∧ c.enum = ho)
    {g : Ghost} {n' : Nat} (hg : g.called = called ++ [n']) (n cap cb : Nat) :
    TStack (.call ⟨l, n', cb, arg, ho⟩ :: tr) (below.length :: ann) (.iter l n cap arg ho :: below)
      (g :: gs) (k :: ks) := by
  have hsn := since_zip_cons hl hk (Ev.call ⟨l, n', cb, arg, ho⟩) below.length
  refine .iter (Nat.le_succ_of_le hk) ?_ ?_ (hb.push hl _ _ (Or.inr (Nat.le_refl _)))
  · rw [hsn, emittedBy_cons, ← hc, hg]
    simp [Ev.callNode?]
  · intro c hc'
    rw [hsn] at hc'
    rcases List.mem_cons.mp hc' with heq | hc'
    · injection heq with h1 _
      injection h1 with h1
      subst h1
      exact ⟨rfl, rfl, rfl⟩
    · exact hev c hc'

/-- **the tie**: the annotation has one entry per trace event, and `called` of every ghost record
    is the sequence of `.call` events emitted by its traversal -/
def TInv (m : MCfg) (gs : List Ghost) (ks : List Nat) (ann : List Nat) : Prop :=
  ann.length = m.trace.length ∧ TStack m.trace ann m.stack gs ks

theorem tinv_init {m : MCfg} {p : Prog} (hst : m.stack = [.prog p]) :
    TInv m [] [] (List.replicate m.trace.length 0) := by
  refine ⟨by simp, ?_⟩
  rw [hst]
  exact .prog p .nil

theorem tinv_of {m m' : MCfg} {gs ks ann} (hl : ann.length = m.trace.length) (ht : m'.trace = m.trace)
    (hs : TStack m.trace ann m'.stack gs ks) : TInv m' gs ks (astep m m' ann) := by
  rw [astep_same ann ht]
  exact ⟨by rw [ht]; exact hl, by rw [ht]; exact hs⟩

theorem tinv_of_cons {m m' : MCfg} {gs ks ann} {e : Ev} (hl : ann.length = m.trace.length)
    (ht : m'.trace = e :: m.trace)
    (hs : TStack (e :: m.trace) (emitDepth m :: ann) m'.stack gs ks) : TInv m' gs ks (astep m m' ann) := by
  rw [astep_cons ann ht]
  exact ⟨by rw [ht]; simp [hl], by rw [ht]; exact hs⟩

theorem tinv_deliver {m : MCfg} {ann below gs ks} (hl : ann.length = m.trace.length)
    (h : TStack m.trace ann below gs ks) (r : Res) : TInv (m.deliver r below) gs ks (astep m (m.deliver r below) ann) := by
  cases below with
  | nil => exact tinv_of hl rfl h
  | cons f rest =>
    cases f with
    | prog p => exact tinv_of hl rfl h
    | iter l n cap arg ho => exact tinv_of hl rfl h
    | wait k =>
      exact tinv_of_cons (e := .res r) hl rfl (.prog _ (h.wait_inv.push hl _ _ (Or.inl rfl)))

/-- **every step keeps the tie** — for every behaviour, at every nesting depth -/
theorem tinv_step (beh : Beh) {m m' : MCfg} {gs : List Ghost} {ks ann : List Nat} (h : TInv m gs ks ann)
    (st : MCfg.step beh m = some m') : TInv m' (gstep m gs) (kstep m ks) (astep m m' ann) := by
  obtain ⟨hl, hs⟩ := h
  cases MCfg.step_inv st with
  | ret hm hni =>
    rw [hm] at hs
    rw [gstep_ret hm hni, kstep_ret hm hni]
    exact tinv_of hl rfl hs.prog_inv
  | stop hm hc =>
    rw [hm] at hs
    rw [gstep_ret_iter hm, kstep_ret_iter hm, if_pos hc, if_pos hc]
    obtain ⟨g, gs', k0, ks', rfl, rfl, _, _, _, hbelow⟩ := hs.prog_inv.iter_inv
    exact tinv_deliver hl hbelow _
  | next_none hm hc hsk =>
    rw [hm] at hs
    simp only [gstep_ret_iter hm, kstep_ret_iter hm, hc, gnext, knext, hsk]
    obtain ⟨g, gs', k0, ks', rfl, rfl, _, _, _, hbelow⟩ := hs.prog_inv.iter_inv
    exact tinv_deliver hl hbelow _
  | next_some hm hc hsk =>
    rw [hm] at hs
    simp only [gstep_ret_iter hm, kstep_ret_iter hm, hc, gnext, knext, hsk]
    obtain ⟨g, gs', k0, ks', rfl, rfl, hk, hcl, hev, hbelow⟩ := hs.prog_inv.iter_inv
    refine tinv_of_cons hl rfl (.prog _ ?_)
    rw [emitDepth_ret_iter hm]
    exact hbelow.emit hl hk hcl hev rfl _ _ _
  | start_none hm hsk =>
    rw [hm] at hs
    simp only [gstep_start hm, kstep_start hm, gstart, kstart, hsk]
    exact tinv_deliver hl (.wait _ hs.prog_inv) _
  | start_some hm hsk =>
    rw [hm] at hs
    simp only [gstep_start hm, kstep_start hm, gstart, kstart, hsk]
    refine tinv_of_cons hl rfl (.prog _ ?_)
    rw [emitDepth_start hm]
    refine (TStack.wait _ hs.prog_inv).emit hl (Nat.le_refl _) (called := []) ?_ (fun c hc => ?_) rfl _ _ _
    · rw [since_zip_length hl]; rfl
    · rw [since_zip_length hl] at hc; cases hc
  | @op cmd k rest hm ht =>
    rw [hm] at hs
    rw [gstep_op hm ht, kstep_op hm ht]
    have htr : (m.applyStep cmd k rest).trace = .res (m.apply (busyOn MFrame.isIterOn rest) cmd).2 :: m.trace :=
      congrArg _ (MCfg.apply_trace m _ cmd)
    exact tinv_of_cons hl htr (.prog _ (hs.prog_inv.push hl _ _ (Or.inl rfl)))


/-- run at most `n` steps of the Model machine with ghost stack, marks and annotation alongside -/
def trunN (beh : Beh) : Nat → MCfg → List Ghost → List Nat → List Nat → MCfg × List Ghost × List Nat × List Nat
  | 0, c, gs, ks, ann => (c, gs, ks, ann)
  | n + 1, c, gs, ks, ann => match MCfg.step beh c with
    | none => (c, gs, ks, ann)
    | some c' => trunN beh n c' (gstep c gs) (kstep c ks) (astep c c' ann)


theorem trunN_succ {beh : Beh} {m m' : MCfg} (h : MCfg.step beh m = some m') (n : Nat) (gs : List Ghost)
    (ks ann : List Nat) :
    trunN beh (n + 1) m gs ks ann = trunN beh n m' (gstep m gs) (kstep m ks) (astep m m' ann) := by
  rw [trunN, h]

/-- marks and annotation are bookkeeping only: Model and ghost stack are those of `grunN` -/
theorem trunN_grunN (beh : Beh) : ∀ (n : Nat) (m : MCfg) (gs : List Ghost) (ks ann : List Nat),
    ((trunN beh n m gs ks ann).1, (trunN beh n m gs ks ann).2.1) = grunN beh n m gs
  | 0, _, _, _, _ => rfl
  | n + 1, m, gs, ks, ann => by
    unfold trunN grunN
    cases MCfg.step beh m with
    | none => rfl
    | some m' => exact trunN_grunN beh n m' _ _ _

theorem trunN_fst (beh : Beh) (n : Nat) (m : MCfg) (gs : List Ghost) (ks ann : List Nat) :
    (trunN beh n m gs ks ann).1 = (MCfg.runN beh n m).1 := by
  rw [← grunN_fst beh n m gs, ← trunN_grunN beh n m gs ks ann]

theorem ginv_trunN (beh : Beh) (n : Nat) {m : MCfg} {gs : List Ghost} (ks ann : List Nat) (h : GInv m gs) :
    GInv (trunN beh n m gs ks ann).1 (trunN beh n m gs ks ann).2.1 := by
  have := ginv_runN beh n h
  rwa [← trunN_grunN beh n m gs ks ann] at this

theorem tinv_runN (beh : Beh) : ∀ (n : Nat) {m : MCfg} {gs : List Ghost} {ks ann : List Nat},
    TInv m gs ks ann →
    TInv (trunN beh n m gs ks ann).1 (trunN beh n m gs ks ann).2.1 (trunN beh n m gs ks ann).2.2.1
      (trunN beh n m gs ks ann).2.2.2
  | 0, _, _, _, _, h => h
  | n + 1, m, gs, ks, ann, h => by
    unfold trunN
    cases hm : MCfg.step beh m with
    | none => exact h
    | some m' => exact tinv_runN beh n (tinv_step beh h hm)

/-- the annotation alone, without ghost records: it depends on the Model run only -/
def arunN (beh : Beh) : Nat → MCfg → List Nat → List Nat
  | 0, _, ann => ann
  | n + 1, c, ann => match MCfg.step beh c with
    | none => ann
    | some c' => arunN beh n c' (astep c c' ann)

theorem trunN_ann (beh : Beh) : ∀ (n : Nat) (m : MCfg) (gs : List Ghost) (ks ann : List Nat),
    (trunN beh n m gs ks ann).2.2.2 = arunN beh n m ann
  | 0, _, _, _, _ => rfl
  | n + 1, m, gs, ks, ann => by
    unfold trunN arunN
    cases MCfg.step beh m with
    | none => rfl
    | some m' => exact trunN_ann beh n m' _ _ _

theorem trunN_halt (beh : Beh) {m : MCfg} (h : MCfg.step beh m = none) :
    ∀ (n : Nat) (gs : List Ghost) (ks ann : List Nat), trunN beh n m gs ks ann = (m, gs, ks, ann)
  | 0, _, _, _ => rfl
  | n + 1, _, _, _ => by unfold trunN; rw [h]


theorem trunN_add (beh : Beh) : ∀ (a b : Nat) (m : MCfg) (gs : List Ghost) (ks ann : List Nat),
    trunN beh (a + b) m gs ks ann =
      trunN beh b (trunN beh a m gs ks ann).1 (trunN beh a m gs ks ann).2.1 (trunN beh a m gs ks ann).2.2.1
        (trunN beh a m gs ks ann).2.2.2
  | 0, b, m, gs, ks, ann => by rw [Nat.zero_add]; rfl
  | a + 1, b, m, gs, ks, ann => by
    rw [Nat.add_right_comm]
    cases hm : MCfg.step beh m with
    | none => rw [trunN_halt beh hm, trunN_halt beh hm, trunN_halt beh hm]
    | some m' =>
      rw [trunN_succ hm, trunN_succ hm]
      exact trunN_add beh a b m' _ _ _


theorem arunN_add (beh : Beh) (a b : Nat) (m : MCfg) (ann : List Nat) :
    arunN beh (a + b) m ann = arunN beh b (MCfg.runN beh a m).1 (arunN beh a m ann) := by
  rw [← trunN_ann beh (a + b) m [] [], trunN_add, trunN_ann, trunN_ann, trunN_fst]

/-- number of running traversals among the frames -/
def iters : List MFrame → Nat
  | [] => 0
  | .iter _ _ _ _ _ :: st => iters st + 1
  | _ :: st => iters st

@[simp] theorem iters_nil : iters [] = 0 := rfl
@[simp] theorem iters_prog (p st) : iters (.prog p :: st) = iters st := rfl
@[simp] theorem iters_wait (k st) : iters (.wait k :: st) = iters st := rfl
@[simp] theorem iters_iter (l n cap arg ho st) : iters (.iter l n cap arg ho :: st) = iters st + 1 := rfl

/-- The traversal `.iter l n cap arg ho` with the frames `pre` above it and `below` under it: its
    ghost record and mark are the entries number `iters pre` (number of traversals above it) of
    `gs` and `ks`, and `called` is the sequence of its `.call` events. -/
theorem TStack.frame {tr ann l n cap arg ho below} : ∀ {pre : List MFrame} {gs : List Ghost} {ks : List Nat},
    TStack tr ann (pre ++ .iter l n cap arg ho :: below) gs ks →
    ∃ g k, gs[iters pre]? = some g ∧ ks[iters pre]? = some k ∧ k ≤ tr.length ∧
      g.called = emittedBy below.length (since k (tr.zip ann)) ∧
      (∀ c, (Ev.call c, below.length) ∈ since k (tr.zip ann) → c.list = l ∧ c.arg = arg ∧ c.enum = ho)
  | [], _, _, h => by
    obtain ⟨g, gs', k, ks', rfl, rfl, h1, h2, h3, _⟩ := h.iter_inv
    exact ⟨g, k, rfl, rfl, h1, h2, h3⟩
  | f :: pre, gs, ks, h => by
    rw [List.cons_append] at h
    cases f with
    | prog p => exact TStack.frame (pre := pre) h.prog_inv
    | wait k => exact TStack.frame (pre := pre) h.wait_inv
    | iter l' n' cap' arg' ho' =>
      obtain ⟨g', gs', k', ks', rfl, rfl, _, _, _, h4⟩ := h.iter_inv
      obtain ⟨g, k, h1, h2, h3⟩ := TStack.frame h4
      exact ⟨g, k, h1, h2, h3⟩

theorem TStack.lengths {tr ann st gs ks} (h : TStack tr ann st gs ks) :
    gs.length = iters st ∧ ks.length = iters st := by
  induction h with
  | nil => exact ⟨rfl, rfl⟩
  | prog p _ ih => exact ih
  | wait k _ ih => exact ih
  | iter _ _ _ _ ih => simp [ih.1, ih.2]

/-- the same position carries the frame invariant of `GInv` -/
theorem GStack.frame {m : MCfg} {SLs : Nat → SList} {l n cap arg ho below} :
    ∀ {pre : List MFrame} {gs : List Ghost},
    GStack m SLs (pre ++ .iter l n cap arg ho :: below) gs →
    ∃ g, gs[iters pre]? = some g ∧ FrameD (m.lists l) (SLs l) m.nextId n cap g.born g.rest ∧ GhostOK (SLs l) g
  | [], _, h => by
    obtain ⟨g, gs', rfl, h1, h2, _⟩ := h.iter_inv
    exact ⟨g, rfl, h1, h2⟩
  | f :: pre, gs, h => by
    rw [List.cons_append] at h
    cases f with
    | prog p => exact GStack.frame (pre := pre) h.prog_inv
    | wait k => exact GStack.frame (pre := pre) h.wait_inv
    | iter l' n' cap' arg' ho' =>
      obtain ⟨g', gs', rfl, _, _, h4⟩ := h.iter_inv
      obtain ⟨g, h1, h2⟩ := GStack.frame h4
      exact ⟨g, h1, h2⟩

/-! ### following one traversal from its start

  `Follow base l arg ho b0 s0 k0 st gs ks`: the stack `st` still contains, directly on top of the frames `base`, a
  traversal `.iter l _ _ arg ho`; its ghost record (the entry of `gs` that goes with it, one entry per traversal as in
  `GStack` / `TStack`) has `born = b0`, `snap = s0`, and its mark is `k0`.  A step keeps this as long as the stack stays
  higher than `base` plus the traversal's frame (`follow_step`): the traversal on top of `base` is then still the same one. -/

section
variable (base : List MFrame) (l arg : Nat) (ho : Bool) (b0 : Nat) (s0 : List Entry) (k0 : Nat)

inductive Follow : List MFrame → List Ghost → List Nat → Prop
  | here {n cap rest called gs ks} : Follow (.iter l n cap arg ho :: base) (⟨b0, s0, rest, called⟩ :: gs) (k0 :: ks)
  | prog (p : Prog) {st gs ks} : Follow st gs ks → Follow (.prog p :: st) gs ks
  | wait (k : Res → Prog) {st gs ks} : Follow st gs ks → Follow (.wait k :: st) gs ks
  | iter {l' n cap arg' ho'} {g : Ghost} {k : Nat} {st gs ks} :
      Follow st gs ks → Follow (.iter l' n cap arg' ho' :: st) (g :: gs) (k :: ks)

end

variable {base : List MFrame} {l arg : Nat} {ho : Bool} {b0 : Nat} {s0 : List Entry} {k0 : Nat}

theorem Follow.length_lt {st gs ks} (h : Follow base l arg ho b0 s0 k0 st gs ks) : base.length < st.length := by
  induction h with
  | here => exact Nat.lt_succ_self _
  | prog _ _ ih => exact Nat.lt_succ_of_lt ih
  | wait _ _ ih => exact Nat.lt_succ_of_lt ih
  | iter _ ih => exact Nat.lt_succ_of_lt ih

theorem MCfg.deliver_stack_le (m : MCfg) (r : Res) (below : List MFrame) :
    (m.deliver r below).stack.length ≤ below.length := by
  unfold MCfg.deliver
  split <;> simp

theorem follow_deliver {m : MCfg} {below gs ks} (h : Follow base l arg ho b0 s0 k0 below gs ks) (r : Res) :
    Follow base l arg ho b0 s0 k0 (m.deliver r below).stack gs ks := by
  cases h with
  | here => exact .here
  | prog p h => exact .prog p h
  | wait k h => exact .prog _ h
  | iter h => exact .iter h

theorem follow_step (beh : Beh) {m m' : MCfg} {gs : List Ghost} {ks : List Nat}
    (hf : Follow base l arg ho b0 s0 k0 m.stack gs ks) (st : MCfg.step beh m = some m')
    (hlen : base.length + 2 ≤ m'.stack.length) :
    Follow base l arg ho b0 s0 k0 m'.stack (gstep m gs) (kstep m ks) := by
  -- the followed traversal ends: the stack gets too low; a nested one ends: its record and mark are popped
  have pop : ∀ {v l2 n2 cap2 arg2 ho2 below} r,
      Follow base l arg ho b0 s0 k0 (.prog (.ret v) :: .iter l2 n2 cap2 arg2 ho2 :: below) gs ks →
      base.length + 2 ≤ (m.deliver r below).stack.length →
      Follow base l arg ho b0 s0 k0 (m.deliver r below).stack gs.tail ks.tail := by
    intro v l2 n2 cap2 arg2 ho2 below r h hlen
    cases h with
    | prog _ h =>
      cases h with
      | here =>
        have := MCfg.deliver_stack_le m r base
        omega
      | iter h => exact follow_deliver h r
  cases MCfg.step_inv st with
  | ret hm hni =>
    rw [hm] at hf
    rw [gstep_ret hm hni, kstep_ret hm hni]
    cases hf with
    | prog _ h => exact h
  | stop hm hc =>
    rw [hm] at hf
    rw [gstep_ret_iter hm, kstep_ret_iter hm, if_pos hc, if_pos hc]
    exact pop _ hf hlen
  | next_none hm hc hsk =>
    rw [hm] at hf
    simp only [gstep_ret_iter hm, kstep_ret_iter hm, hc, gnext, knext, hsk]
    exact pop _ hf hlen
  | next_some hm hc hsk =>
    rw [hm] at hf
    simp only [gstep_ret_iter hm, kstep_ret_iter hm, hc, gnext, knext, hsk]
    cases hf with
    | prog _ h =>
      cases h with
      | here => exact .prog _ .here
      | iter h => exact .prog _ (.iter h)
  | start_none hm hsk =>
    rw [hm] at hf
    simp only [gstep_start hm, kstep_start hm, gstart, kstart, hsk]
    cases hf with
    | prog _ h => exact follow_deliver (.wait _ h) _
  | start_some hm hsk =>
    rw [hm] at hf
    simp only [gstep_start hm, kstep_start hm, gstart, kstart, hsk]
    cases hf with
    | prog _ h => exact .prog _ (.iter (.wait _ h))
  | op hm ht =>
    rw [hm] at hf
    rw [gstep_op hm ht, kstep_op hm ht]
    cases hf with
    | prog _ h => exact .prog _ h

/-- The traversal that `invoke` / `enum` pushes is followed from the next state on.  (On an empty list the
    command delivers its result at once and the stack does not get that high.) -/
theorem follow_start (beh : Beh) {m m' : MCfg} (gs : List Ghost) (ks : List Nat) {l arg ho kk rest}
    (hst : m.stack = .prog (.op (bif ho then .enum l arg else .invoke l arg) kk) :: rest)
    (st : MCfg.step beh m = some m') (hlen : rest.length + 3 ≤ m'.stack.length) :
    Follow (.wait kk :: rest) l arg ho m.nextId (absL m l) m.trace.length m'.stack (gstep m gs) (kstep m ks) := by
  rw [MCfg.step_start hst, MCfg.seekCall] at st
  rw [gstep_start hst, kstep_start hst, gstart, kstart]
  cases hsk : seek (m.lists l).heap (m.lists l).cur m.fuel (m.lists l).head with
  | none =>
    simp only [hsk] at st
    cases st
    have := MCfg.deliver_stack_le m (MCfg.finishRes ho true) (.wait kk :: rest)
    rw [List.length_cons] at this
    omega
  | some n' =>
    simp only [hsk] at st
    cases st
    exact .prog _ .here

/-- The instrumented run with its bookkeeping left open: along the plain run there are a ghost stack and marks with
    which both invariants hold, the annotation being `arunN`; and a traversal that is followed at the start is
    followed for as long as the stack stays above its frame. -/
theorem inst_runN (beh : Beh) : ∀ (n : Nat) {m : MCfg} {gs : List Ghost} {ks ann : List Nat},
    GInv m gs → TInv m gs ks ann →
    ∃ gs' ks', GInv (MCfg.runN beh n m).1 gs' ∧ TInv (MCfg.runN beh n m).1 gs' ks' (arunN beh n m ann) ∧
      ∀ {base l arg ho b0 s0 k0}, Follow base l arg ho b0 s0 k0 m.stack gs ks →
        (∀ t, t ≤ n → base.length + 2 ≤ (MCfg.runN beh t m).1.stack.length) →
        Follow base l arg ho b0 s0 k0 (MCfg.runN beh n m).1.stack gs' ks'
  | 0, _, gs, ks, _, hg, ht => ⟨gs, ks, hg, ht, fun hf _ => hf⟩
  | n + 1, m, gs, ks, ann, hg, ht => by
    cases hm : MCfg.step beh m with
    | none =>
      rw [MCfg.runN, arunN, hm]
      exact ⟨gs, ks, hg, ht, fun hf _ => hf⟩
    | some m' =>
      have e : ∀ t, MCfg.runN beh (t + 1) m = MCfg.runN beh t m' := fun t => by rw [MCfg.runN, hm]
      obtain ⟨gs', ks', h1, h2, h3⟩ := inst_runN beh n (ginv_step beh hg hm) (tinv_step beh ht hm)
      rw [e, arunN, hm]
      refine ⟨gs', ks', h1, h2, fun hf hp => h3 (follow_step beh hf hm ?_) fun t ht => ?_⟩
      · have := hp 1 (by omega)
        rwa [e] at this
      · have := hp (t + 1) (by omega)
        rwa [e] at this

theorem Follow.top {gs : List Ghost} {ks : List Nat} {p : Prog} {l' n cap arg' : Nat} {ho' : Bool} {below : List MFrame}
    (hf : Follow base l arg ho b0 s0 k0 (.prog p :: .iter l' n cap arg' ho' :: below) gs ks)
    (hlen : below.length = base.length) :
    below = base ∧ l' = l ∧ arg' = arg ∧ ho' = ho ∧
      ∃ rest called gs' ks', gs = ⟨b0, s0, rest, called⟩ :: gs' ∧ ks = k0 :: ks' := by
  cases hf with
  | prog _ h =>
    cases h with
    | here => exact ⟨rfl, rfl, rfl, rfl, _, _, _, _, rfl, rfl⟩
    | iter h =>
      have := h.length_lt
      omega

end Evp
