import EventppVerif.CL.Model
import EventppVerif.CL.ListLemmas
/-
  Pointer segments: `Seg f h o xs e` — starting from the pointer value `o` and following the
  field `f` (`next` or `prev`) through heap `h` visits exactly the nodes `xs` and then holds `e`.
-/
namespace Evp

def Seg (f : Node → Option Nat) (h : Heap) : Option Nat → List Nat → Option Nat → Prop
  | o, [], e => o = e
  | o, a :: r, e => o = some a ∧ Seg f h (f (h a)) r e

abbrev nextF : Node → Option Nat := Node.next
abbrev prevF : Node → Option Nat := Node.prev

theorem seg_nil {f h o e} : Seg f h o [] e ↔ o = e := Iff.rfl

theorem seg_cons {f h o a r e} : Seg f h o (a :: r) e ↔ o = some a ∧ Seg f h (f (h a)) r e := Iff.rfl

theorem seg_append {f h} : ∀ {xs ys o e}, Seg f h o (xs ++ ys) e ↔ ∃ m, Seg f h o xs m ∧ Seg f h m ys e
  | [], ys, o, e => by simp [Seg]
  | a :: r, ys, o, e => by
    simp only [List.cons_append, Seg]
    constructor
    · rintro ⟨h1, h2⟩
      obtain ⟨m, hm1, hm2⟩ := seg_append.mp h2
      exact ⟨m, ⟨h1, hm1⟩, hm2⟩
    · rintro ⟨m, ⟨h1, hm1⟩, hm2⟩
      exact ⟨h1, seg_append.mpr ⟨m, hm1, hm2⟩⟩

theorem seg_head {f h o xs e} (hs : Seg f h o xs e) (hne : xs ≠ []) : o = xs.head? := by
  cases xs with
  | nil => exact absurd rfl hne
  | cons a r => exact hs.1

theorem seg_head' {f h o xs} (hs : Seg f h o xs none) : o = xs.head? := by
  cases xs with
  | nil => exact hs
  | cons a r => exact hs.1

theorem seg_split {f h o P n Q e} :
    Seg f h o (P ++ n :: Q) e ↔ Seg f h o P (some n) ∧ Seg f h (f (h n)) Q e := by
  rw [seg_append]
  exact ⟨fun ⟨_, h1, h2, h3⟩ => ⟨h2 ▸ h1, h3⟩, fun ⟨h1, h2⟩ => ⟨_, h1, rfl, h2⟩⟩

theorem seg_snoc {f h o P p e} : Seg f h o (P ++ [p]) e ↔ Seg f h o P (some p) ∧ f (h p) = e :=
  seg_split

theorem seg_append_none {f h o P Q} :
    Seg f h o (P ++ Q) none ↔ Seg f h o P Q.head? ∧ Seg f h Q.head? Q none := by
  rw [seg_append]
  refine ⟨fun ⟨m, h1, h2⟩ => ?_, fun ⟨h1, h2⟩ => ⟨_, h1, h2⟩⟩
  cases seg_head' h2
  exact ⟨h1, h2⟩

theorem seg_congr {f h h'} : ∀ {xs o e}, (∀ a ∈ xs, f (h' a) = f (h a)) → (Seg f h' o xs e ↔ Seg f h o xs e)
  | [], o, e, _ => by simp [Seg]
  | a :: r, o, e, hh => by
    simp only [Seg]
    rw [hh a (by simp)]
    rw [seg_congr (xs := r) (fun b hb => hh b (by simp [hb]))]

theorem seg_upd_notin {f h a v xs o e} (hn : a ∉ xs) : Seg f (upd h a v) o xs e ↔ Seg f h o xs e :=
  seg_congr (fun b hb => by
    have : b ≠ a := fun hba => hn (hba ▸ hb)
    simp [this])

/-- replace the middle of a chain.  The nodes of `P` and of `Q` keep their field, except that the pointer leaving `P`
    now leads into `Y`, and `Y` leads to `Q`.  With `Y = [id]` this links a node in, with `Y = []` it unlinks
    whatever stood between `P` and `Q`; with `f = prev` on the reversed chain it is the same fact backwards. -/
theorem seg_splice {f h h' o e P Y Q} (sP : Seg f h o P e) (sQ : Seg f h Q.head? Q none) (hnd : (P ++ Q).Nodup)
    (hPQ : ∀ a ∈ P ++ Q, f (h' a) = if P.getLast? = some a then (Y ++ Q).head? else f (h a))
    (hY : Seg f h' (Y ++ Q).head? Y Q.head?) :
    Seg f h' (if P = [] then (Y ++ Q).head? else o) (P ++ (Y ++ Q)) none := by
  obtain ⟨n1, -, n3⟩ := List.nodup_append.mp hnd
  have keep : ∀ {X : List Nat} {o e}, (∀ a ∈ X, a ∈ P ++ Q ∧ P.getLast? ≠ some a) → Seg f h o X e → Seg f h' o X e :=
    fun hX => (seg_congr fun a ha => by rw [hPQ a (hX a ha).1, if_neg (hX a ha).2]).mpr
  refine seg_append.mpr ⟨_, ?_, seg_append.mpr ⟨_, hY, keep (fun a ha => ⟨List.mem_append_right _ ha,
    fun e => n3 a (List.mem_of_getLast? e) a ha rfl⟩) sQ⟩⟩
  rcases List.eq_nil_or_concat P with rfl | ⟨P', p, rfl⟩
  · exact rfl
  · rw [List.concat_eq_append] at *
    rw [if_neg (by simp)]
    refine seg_snoc.mpr ⟨keep (fun a ha => ⟨by simp [ha], ?_⟩) (seg_snoc.mp sP).1, by simpa using hPQ p (by simp)⟩
    simpa using fun e : p = a => (List.nodup_append.mp n1).2.2 a ha p (by simp) e.symm

theorem seg_insert {f h h' o P Q id} (hs : Seg f h o (P ++ Q) none) (hnd : (P ++ Q).Nodup) (hid : id ∉ P ++ Q)
    (hf : ∀ a, f (h' a) = if a = id then Q.head? else if P.getLast? = some a then some id else f (h a)) :
    Seg f h' (if P = [] then some id else o) (P ++ id :: Q) none := by
  obtain ⟨sP, sQ⟩ := seg_append_none.mp hs
  refine seg_splice (Y := [id]) sP sQ hnd (fun a ha => ?_) ⟨rfl, ?_⟩
  · rw [hf, if_neg fun e : a = id => hid (e ▸ ha)]; rfl
  · rw [hf, if_pos rfl]; exact rfl

theorem seg_remove {f h h' o P Q n} (hs : Seg f h o (P ++ n :: Q) none) (hnd : (P ++ n :: Q).Nodup)
    (hf : ∀ a ∈ P ++ Q, f (h' a) = if P.getLast? = some a then Q.head? else f (h a)) :
    Seg f h' (if P = [] then Q.head? else o) (P ++ Q) none := by
  obtain ⟨sP, sQ⟩ := seg_split.mp hs
  exact seg_splice (Y := []) sP (seg_head' sQ ▸ sQ) (nodup_split hnd).2.2.2.2.2 hf rfl

theorem seg_unique {f h} : ∀ {xs ys o}, Seg f h o xs none → Seg f h o ys none → xs = ys
  | [], [], _, _, _ => rfl
  | [], b :: s, o, h1, h2 => by cases (seg_nil.mp h1).symm.trans h2.1
  | a :: r, [], o, h1, h2 => by cases (seg_nil.mp h2).symm.trans h1.1
  | a :: r, b :: s, o, h1, h2 => by
    cases h1.1.symm.trans h2.1
    rw [seg_unique h1.2 h2.2]

theorem seg_last {f h} : ∀ {xs o e a}, Seg f h o (xs ++ [a]) e → f (h a) = e := by
  intro xs o e a hs
  exact (seg_snoc.mp hs).2

theorem seg_mem_field {f h} : ∀ {xs o e a b r}, Seg f h o (xs ++ a :: b :: r) e → f (h a) = some b := by
  intro xs o e a b r hs
  exact (seg_split.mp hs).2.1

theorem chainOf_seg {h : Heap} : ∀ {xs o fuel}, Seg nextF h o xs none → xs.length < fuel → chainOf h fuel o = xs
  | [], o, fuel, hs, _ => by
    cases seg_nil.mp hs
    cases fuel <;> rfl
  | a :: r, o, fuel + 1, hs, hl => by
    cases hs.1
    rw [chainOf, chainOf_seg hs.2 (Nat.lt_of_succ_lt_succ hl)]

theorem seek_chainOf (h : Heap) (cap : Nat) : ∀ fuel o,
    seek h cap fuel o = (chainOf h fuel o).find? (fun n => guard (h n).counter cap)
  | 0, _ => rfl
  | _ + 1, none => rfl
  | f + 1, some n => by
    rw [seek, chainOf, List.find?_cons, seek_chainOf h cap f]
    split <;> simp [*]

theorem seek_seg {h : Heap} {cap : Nat} {xs o fuel} (hs : Seg nextF h o xs none) (hl : xs.length < fuel) :
    seek h cap fuel o = xs.find? (fun n => guard (h n).counter cap) := by
  rw [seek_chainOf, chainOf_seg hs hl]

theorem walkPrev_seg {h : Heap} : ∀ {xs n fuel}, Seg prevF h (some n) xs none → xs.length ≤ fuel + 1 →
    some (walkPrev h fuel n) = xs.getLast?
  | [], _, _, hs, _ => by cases hs
  | [a], n, fuel, hs, _ => by
    cases hs.1
    have ha : (h a).prev = none := hs.2
    cases fuel <;> simp [walkPrev, ha]
  | a :: b :: r, n, fuel, hs, hl => by
    cases hs.1
    have hb : (h a).prev = some b := hs.2.1
    cases fuel with
    | zero => simp at hl
    | succ k =>
      rw [walkPrev, hb, List.getLast?_cons_cons]
      exact walkPrev_seg (hb ▸ hs.2) (by simpa using hl)

end Evp
