import EventppVerif.CL.Sim
/-
  Helper lemmas for Properties/C19.lean: a world without a running traversal is related to its
  abstraction (`sim_abs`), the effect of the wrap branch of `getNextCounter`, and what survives every
  step of the Model machine without any hypothesis about wraps (`MInvD`).
-/
namespace Evp

theorem sim_abs {m : MCfg} (h : MInv m) {p : Prog} (hst : m.stack = [.prog p]) : Sim m (absCfg m p) := by
  refine ⟨rfl, rfl, rfl, fun l => ?_, ?_⟩
  · rw [absCfg_lists]
    exact h.rep l
  · rw [hst]
    exact .cons (.prog p) .nil

theorem rep_nextCounter_wrap {l SL b} (r : Rep l SL b) (hw : l.willWrap = true) :
    (l.nextCounter (b + 1)).2 = 1 ∧ (l.nextCounter (b + 1)).1.cur = 1 ∧
    ∀ a ∈ SL.ids, ((l.nextCounter (b + 1)).1.heap a).counter = 1 := by
  rw [nextCounter_wrap hw]
  refine ⟨rfl, rfl, fun a ha => ?_⟩
  have hs := setOnes_seg r.wf.fwd r.wf.nodup (Nat.lt_succ_of_le r.wf.length_le) a
  show ((setOnes l.heap (b + 1) l.head) a).counter = 1
  rw [hs]; simp [ha]

/-- generations of existing callbacks never grow -/
theorem nextCounter_counter {l SL b} (r : Rep l SL b) {n : Nat} (hn : n ∈ SL.ids) :
    ((l.nextCounter (b + 1)).1.heap n).counter = (l.heap n).counter ∨
    ((l.nextCounter (b + 1)).1.heap n).counter = 1 := by
  cases hw : l.willWrap with
  | true => exact Or.inr ((rep_nextCounter_wrap r hw).2.2 n hn)
  | false => rw [nextCounter_nowrap hw]; exact Or.inl rfl

theorem Added.wrap {l SL b l' SL'} (A : Added l SL b l' SL') (r : Rep l SL b) (hw : l.willWrap = true) :
    l'.cur = 1 ∧ ∀ n ∈ SL'.ids, (l'.heap n).counter = 1 := by
  obtain ⟨hc, hcur, hall⟩ := rep_nextCounter_wrap r hw
  refine ⟨A.cur.trans hcur, fun n hn => ?_⟩
  rw [A.counter, hc]
  split
  · rfl
  · next hne => exact hall n (((A.ids n).mp hn).resolve_right hne)

theorem Added.counter_old {l SL b l' SL'} (A : Added l SL b l' SL') (r : Rep l SL b) {n : Nat}
    (hn : n ∈ SL.ids) : (l'.heap n).counter = (l.heap n).counter ∨ (l'.heap n).counter = 1 := by
  rw [A.counter, if_neg (Nat.ne_of_lt (r.wf.lt n hn))]
  exact nextCounter_counter r hn

theorem remove_counter (l : CL) (h : Hd) {n : Nat} (hne : n ≠ h) :
    ((l.remove h).1.heap n).counter = (l.heap n).counter := by
  unfold CL.remove
  split
  · rw [freeNode_counter, if_neg hne]
  · rfl

theorem guard_stable {c c' cap : Nat} (hc : c' = c ∨ c' = 1) (hcap : 1 ≤ cap) (hg : guard c cap = true) :
    guard c' cap = true := by
  rcases hc with rfl | rfl
  · exact hg
  · simp [guard]; exact hcap

theorem seek_guard {h : Heap} {cap fuel : Nat} {o : Option Nat} {n : Nat} (hs : seek h cap fuel o = some n) :
    guard (h n).counter cap = true := by
  rw [seek_chainOf] at hs
  exact List.find?_some (p := fun n => guard (h n).counter cap) hs

theorem seek_head {l SL b n'} (r : Rep l SL b) (hs : seek l.heap l.cur (b + 1) l.head = some n') :
    ∃ e es, SL = e :: es ∧ e.id = n' ∧ (l.heap n').cb = e.cb := by
  cases SL with
  | nil =>
    have : l.head = none := by simpa using r.wf.head_eq
    simp [this, seek] at hs
  | cons e es =>
    have w := r.wf
    have hg : guard (l.heap e.id).counter l.cur = true := by
      rw [guard_live ((w.live e.id).mp (by simp))]; simpa using w.cnt e.id (by simp)
    rw [seek_seg w.fwd (Nat.lt_succ_of_le w.length_le)] at hs
    have hn : e.id = n' := by simpa [hg] using hs
    subst hn
    exact ⟨e, es, rfl, rfl, r.cbs e (by simp)⟩

/-- forget the captured generation of a traversal frame -/
def MFrame.shadow : MFrame → MFrame
  | .iter l n _ arg ho => .iter l n 0 arg ho
  | f => f

/-- the Spec frame with an empty snapshot -/
def MFrame.toS : MFrame → SFrame
  | .prog p => .prog p
  | .wait k => .wait k
  | .iter l _ _ arg ho => .iter l [] arg ho

/-- `Sim0 m s`: every list object of `m` represents the list `s.lists l`, and every running
    traversal of `m` satisfies the structural invariant.  It is stated by reusing the stack relation of the
    simulation with the captured generation and the snapshot of every traversal erased:
    `FrameOK l SL b n 0 []` says exactly `∃ Y, Ahead l SL b n Y` (`FrameOK.ahead`, `Ahead.frame0`) — no live node
    passes the guard with captured generation 0, so the condition on the snapshot is void. -/
def Sim0 (m : MCfg) (s : SCfg) : Prop :=
  SimOn m s (m.stack.map MFrame.shadow) (m.stack.map MFrame.toS)

/-- the invariant of the Model alone, including traversals in progress; holds across wraps (the `D` of `MInvD`,
    `FrameD` is that of the `C19_during_*` theorems they serve: invocations in progress during a wrap).  Apart from
    `minvD_iff` no proof unfolds this definition; the form to think with, and the one every proof goes through, is
    `minvD_iff`: `MInv m`, and `∃ Y, Ahead …` for every traversal on the stack. -/
def MInvD (m : MCfg) : Prop := ∃ s, Sim0 m s

theorem FrameOK.ahead {l SL b n cap rest} (f : FrameOK l SL b n cap rest) : ∃ Y, Ahead l SL b n Y := by
  obtain ⟨R, S, h1, h2, h3, h4, _⟩ := f
  exact ⟨_, R, S, h1, h2, h3, h4, rfl⟩

theorem Ahead.frame0 {l SL b n Y} (r : Rep l SL b) (a : Ahead l SL b n Y) : FrameOK l SL b n 0 [] := by
  obtain ⟨R, S, h1, h2, h3, h4, _⟩ := a
  refine ⟨R, S, h1, h2, h3, h4, Nat.zero_le _, ?_, by simp, by simp⟩
  simp only [List.filter_nil, List.map_nil, List.filter_eq_nil_iff, decide_eq_true_eq]
  intro a ha
  have := (r.suffix_mem h1 (mem_Y ha)).1
  omega

theorem StackSim.ahead {m s} : ∀ {st : List MFrame}, StackSim m s (st.map MFrame.shadow) (st.map MFrame.toS) →
    ∀ {l n cap arg ho}, MFrame.iter l n cap arg ho ∈ st → ∃ Y, Ahead (m.lists l) (s.lists l) m.nextId n Y
  | f :: st, h, l, n, cap, arg, ho, hf => by
    obtain ⟨_, _, e, hf', ht⟩ := h.cons_inv
    injection e with e1 e2
    subst e1 e2
    rcases List.mem_cons.mp hf with rfl | hf
    · obtain ⟨_, _, ok⟩ := hf'.iter_inv
      exact ok.ahead
    · exact StackSim.ahead ht hf

theorem StackSim.of_ahead {m s} (hr : ∀ l, Rep (m.lists l) (s.lists l) m.nextId) : ∀ {st : List MFrame},
    (∀ {l n cap arg ho}, MFrame.iter l n cap arg ho ∈ st → ∃ Y, Ahead (m.lists l) (s.lists l) m.nextId n Y) →
    StackSim m s (st.map MFrame.shadow) (st.map MFrame.toS)
  | [], _ => .nil
  | f :: st, H => by
    refine .cons ?_ (StackSim.of_ahead hr fun hf => H (List.mem_cons_of_mem _ hf))
    cases f with
    | prog p => exact .prog p
    | wait k => exact .wait k
    | iter l n cap arg ho =>
      obtain ⟨Y, a⟩ := H (List.mem_cons_self ..)
      exact .iter _ _ _ _ _ _ (a.frame0 (hr l))

/-- `MInvD` without the auxiliary Spec configuration: every list object is well formed, and every
    running traversal walks removed nodes and then a suffix of the live chain -/
theorem minvD_iff {m : MCfg} : MInvD m ↔ MInv m ∧ ∀ {l n cap arg ho}, MFrame.iter l n cap arg ho ∈ m.stack →
    ∃ Y, Ahead (m.lists l) (absList (m.lists l) (m.nextId + 1)) m.nextId n Y := by
  constructor
  · rintro ⟨s, h⟩
    refine ⟨fun l => ⟨_, h.rep l⟩, fun {l n cap arg ho} hf => ?_⟩
    rw [(h.rep l).abs]
    exact h.stack.ahead hf
  · rintro ⟨h, H⟩
    have hr : ∀ l, Rep (m.lists l) ((absCfg m (.ret true)).lists l) m.nextId := fun l => by
      rw [absCfg_lists]; exact h.rep l
    exact ⟨absCfg m (.ret true), rfl, rfl, rfl, hr, StackSim.of_ahead hr fun hf => by
      rw [absCfg_lists]; exact H hf⟩

theorem ahead_stable (n : Nat) : OpStable false (fun l SL b => ∃ Y, Ahead l SL b n Y) where
  mono := fun ⟨Y, a⟩ h => ⟨Y, a.mono h⟩
  added := fun _ A _ ⟨_, a⟩ => let ⟨Y', a', _⟩ := A.ahead a; ⟨Y', a'⟩
  remove := fun {_ _ b} r ⟨Y, a⟩ h =>
    r.remove_ind (motive := fun x y => ∃ Y, Ahead x.1 y.1 b n Y) h (fun hp => ⟨_, a.freeNode r hp⟩) ⟨Y, a⟩
  cur := fun ⟨Y, a⟩ c _ => ⟨Y, a.cur c⟩

/-- **every step keeps the invariant** — no hypothesis about wraps -/
theorem minvD_step (beh : Beh) {m m' : MCfg} (h : MInvD m) (st : MCfg.step beh m = some m') : MInvD m' := by
  obtain ⟨hm, H⟩ := minvD_iff.mp h
  refine minvD_iff.mpr ⟨minv_step beh hm st, fun {l n cap arg ho} hf => ?_⟩
  have tl : ∀ {f rest}, m.stack = f :: rest → MFrame.iter l n cap arg ho ∈ rest →
      ∃ Y, Ahead (m.lists l) (absList (m.lists l) (m.nextId + 1)) m.nextId n Y :=
    fun hs hf => H (hs ▸ List.mem_cons_of_mem _ hf)
  cases MCfg.step_inv st with
  | ret hs _ => exact tl hs hf
  | stop hs _ =>
    rw [MCfg.deliver_lists, MCfg.deliver_nextId]
    exact tl hs (List.mem_cons_of_mem _ (MCfg.mem_deliver_stack hf))
  | next_none hs _ _ =>
    rw [MCfg.deliver_lists, MCfg.deliver_nextId]
    exact tl hs (List.mem_cons_of_mem _ (MCfg.mem_deliver_stack hf))
  | next_some hs _ hsk =>
    rcases List.mem_cons.mp (List.mem_of_ne_of_mem MFrame.noConfusion hf) with e | hf
    · cases e
      obtain ⟨Y, a⟩ := H (by rw [hs]; exact List.mem_cons_of_mem _ (List.mem_cons_self ..))
      obtain ⟨_, l₂, _, _, _, a'⟩ := a.seek_some (hm.rep l) hsk
      exact ⟨l₂, a'⟩
    · exact tl hs (List.mem_cons_of_mem _ hf)
  | start_none hs _ =>
    rw [MCfg.deliver_lists, MCfg.deliver_nextId]
    rcases List.mem_cons.mp (MCfg.mem_deliver_stack hf) with e | hf
    · cases e
    · exact tl hs hf
  | start_some hs hsk =>
    rcases List.mem_cons.mp (List.mem_of_ne_of_mem MFrame.noConfusion hf) with e | hf
    · cases e
      obtain ⟨e, es, hSL, rfl, _⟩ := seek_head (hm.rep l) hsk
      exact ⟨_, hSL ▸ Ahead.start (m.lists l) m.nextId e es⟩
    · exact tl hs (List.mem_of_ne_of_mem MFrame.noConfusion hf)
  | op hs _ =>
    have hf := List.mem_of_ne_of_mem MFrame.noConfusion hf
    exact (MCfg.apply_stable_abs hm _ _).2 (ahead_stable n) (busyOn_of_mem hf) (tl hs hf)

end Evp
