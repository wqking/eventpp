import EventppVerif.CL.PropAuxC19
/-
  Helper file for Properties/C19.lean (the clause about invocations that are in progress when the
  generation counter wraps).

  `FrameD` is the frame invariant of the simulation (`FrameOK`, CL/Inv.lean) made robust against
  counter wraps.  `FrameOK` compares what the traversal will still call (the nodes ahead that pass
  the guard `counter ≤ cap`) with the remaining snapshot of the Spec invocation; after a wrap the
  nodes appended during the invocation may pass the guard as well, so the equation breaks.
  `FrameD` carries, in addition to the remaining snapshot `rest`, the id bound `b0` of the moment
  the invocation started (every node allocated later has an id `≥ b0`) and says

    * the nodes ahead that are *older than the invocation* (`id < b0`) are exactly the still-present
      entries of the remaining snapshot, in order (an equation, it never mentions counters), and
    * every such old node passes the guard (`counter ≤ cap`).

  Both survive every structural operation, wrapping or not: the wrap resets the counters of the old nodes to 1,
  which is why `1 ≤ cap` is part of `FrameD` (it holds from the start: the first node called is live, and its
  generation is at most the captured one).  The sublist form (`FrameSub`: the
  still-present snapshot entries are a sublist, in order, of what the traversal will still call)
  is a corollary.
-/
namespace Evp

theorem dropWhile_agree {α} {p q : α → Bool} {e : α} {es : List α} : ∀ {rest : List α},
    rest.dropWhile (fun x => !p x) = e :: es → (∀ x ∈ rest, p x = false → q x = true) → q e = false →
    rest.dropWhile q = e :: es
  | [], h, _, _ => by simp at h
  | x :: r, h, hq, he => by
    rw [List.dropWhile_cons] at h
    split at h
    · rename_i hx
      have hx' : p x = false := by simpa using hx
      have : q x = true := hq x (by simp) hx'
      rw [List.dropWhile_cons, if_pos this]
      exact dropWhile_agree h (fun y hy => hq y (List.mem_cons_of_mem _ hy)) he
    · simp at h
      obtain ⟨rfl, rfl⟩ := h
      rw [List.dropWhile_cons]
      simp [he]

theorem filter_map_cons_dropWhile {α β} {p : α → Bool} {f : α → β} {x : β} {T : List β} {rest : List α}
    (h : (rest.filter p).map f = x :: T) :
    ∃ e es, rest.dropWhile (fun a => !p a) = e :: es ∧ p e = true ∧ f e = x ∧ (es.filter p).map f = T ∧
      e ∈ rest ∧ ∀ y ∈ es, y ∈ rest := by
  cases hd : rest.dropWhile (fun a => !p a) with
  | nil =>
    rw [dropWhile_not_nil hd] at h
    simp at h
  | cons e es =>
    obtain ⟨d1, d2, d3, d4⟩ := dropWhile_not_cons hd
    rw [d2] at h
    simp only [List.map_cons, List.cons.injEq] at h
    exact ⟨e, es, rfl, d1, h.1, h.2, d3, d4⟩


/-- Ghost record of one running invocation: `born` is the world's id bound (`nextId`) when the
    invocation started — every callback added later has a handle `≥ born`; `snap` is the snapshot
    (the list content at the start); `rest` is the part of the snapshot that the invocation has
    not reached yet; `called` are the handles the invocation has called so far, in call order. -/
structure Ghost where
  born : Nat
  snap : List Entry
  rest : List Entry
  called : List Nat
deriving DecidableEq, Repr

/-- A running Model traversal standing on node `m` with captured generation `cap`, started when
    the id bound was `b0`, whose remaining snapshot is `rest` (see the file header). -/
def FrameD (l : CL) (SL : SList) (b : Nat) (m cap b0 : Nat) (rest : List Entry) : Prop :=
  ∃ R S : List Nat,
    S <:+ SL.ids ∧
    (∀ r ∈ R, (l.heap r).counter = 0 ∧ r < b) ∧
    R.Nodup ∧
    Seg nextF l.heap (some m) R S.head? ∧
    1 ≤ cap ∧ b0 ≤ b ∧
    (∀ a ∈ (if R = [] then S.tail else S), a < b0 → (l.heap a).counter ≤ cap) ∧
    ((if R = [] then S.tail else S).filter (fun n => decide (n < b0)))
      = ((rest.filter (fun e => SL.present e.id)).map (·.id)) ∧
    (∀ e ∈ rest, SL.present e.id → e ∈ SL) ∧
    (∀ e ∈ rest, e.id < b0)

/-- The sublist form of the frame invariant: the still-present entries of the remaining snapshot
    are a sublist, in order, of what the traversal will still call. -/
def FrameSub (l : CL) (SL : SList) (b : Nat) (m cap : Nat) (rest : List Entry) : Prop :=
  ∃ R S : List Nat,
    S <:+ SL.ids ∧
    (∀ r ∈ R, (l.heap r).counter = 0 ∧ r < b) ∧
    R.Nodup ∧
    Seg nextF l.heap (some m) R S.head? ∧
    List.Sublist ((rest.filter (fun e => SL.present e.id)).map (·.id))
      ((if R = [] then S.tail else S).filter (fun n => decide ((l.heap n).counter ≤ cap))) ∧
    (∀ e ∈ rest, SL.present e.id → e ∈ SL) ∧
    (∀ e ∈ rest, e.id < b)


theorem frameD_iff {l SL b m cap b0 rest} : FrameD l SL b m cap b0 rest ↔
    ∃ Y, Ahead l SL b m Y ∧ 1 ≤ cap ∧ b0 ≤ b ∧ (∀ a ∈ Y, a < b0 → (l.heap a).counter ≤ cap) ∧
      Y.filter (fun n => decide (n < b0)) = (rest.filter (fun e => SL.present e.id)).map (·.id) ∧
      (∀ e ∈ rest, SL.present e.id → e ∈ SL) ∧ (∀ e ∈ rest, e.id < b0) := by
  constructor
  · rintro ⟨R, S, h1, h2, h3, h4, h⟩
    exact ⟨_, ⟨R, S, h1, h2, h3, h4, rfl⟩, h⟩
  · rintro ⟨_, ⟨R, S, h1, h2, h3, h4, rfl⟩, h⟩
    exact ⟨R, S, h1, h2, h3, h4, h⟩

theorem frameSub_iff {l SL b m cap rest} : FrameSub l SL b m cap rest ↔
    ∃ Y, Ahead l SL b m Y ∧
      List.Sublist ((rest.filter (fun e => SL.present e.id)).map (·.id))
        (Y.filter (fun n => decide ((l.heap n).counter ≤ cap))) ∧
      (∀ e ∈ rest, SL.present e.id → e ∈ SL) ∧ (∀ e ∈ rest, e.id < b) := by
  constructor
  · rintro ⟨R, S, h1, h2, h3, h4, h⟩
    exact ⟨_, ⟨R, S, h1, h2, h3, h4, rfl⟩, h⟩
  · rintro ⟨_, ⟨R, S, h1, h2, h3, h4, rfl⟩, h⟩
    exact ⟨R, S, h1, h2, h3, h4, h⟩

theorem FrameOK.toSub {l SL b m cap rest} (f : FrameOK l SL b m cap rest) : FrameSub l SL b m cap rest := by
  obtain ⟨R, S, h1, h2, h3, h4, _, h6, h7, h8⟩ := f
  exact ⟨R, S, h1, h2, h3, h4, by rw [h6]; exact List.Sublist.refl _, h7, h8⟩

theorem FrameD.born_le {l SL b m cap b0 rest} (f : FrameD l SL b m cap b0 rest) : b0 ≤ b := by
  obtain ⟨_, _, _, h6, _⟩ := frameD_iff.mp f
  exact h6

theorem FrameD.rest_lt {l SL b m cap b0 rest} (f : FrameD l SL b m cap b0 rest) : ∀ e ∈ rest, e.id < b0 := by
  obtain ⟨_, _, _, _, _, _, _, h10⟩ := frameD_iff.mp f
  exact h10

theorem FrameD.toSub {l SL b m cap b0 rest} (f : FrameD l SL b m cap b0 rest) : FrameSub l SL b m cap rest := by
  obtain ⟨Y, a, _, h6, h7, h8, h9, h10⟩ := frameD_iff.mp f
  refine frameSub_iff.mpr ⟨Y, a, ?_, h9, fun e he => Nat.lt_of_lt_of_le (h10 e he) h6⟩
  have : Y.filter (fun n => decide (n < b0)) =
      (Y.filter (fun n => decide ((l.heap n).counter ≤ cap))).filter (fun n => decide (n < b0)) := by
    rw [List.filter_filter]
    apply List.filter_congr
    intro a ha
    by_cases hab : a < b0
    · simp [hab, h7 a ha hab]
    · simp [hab]
  rw [← h8, this]
  exact List.filter_sublist

theorem FrameD.mono {l SL b b' m cap b0 rest} (f : FrameD l SL b m cap b0 rest) (hb : b ≤ b') :
    FrameD l SL b' m cap b0 rest := by
  obtain ⟨Y, a, h5, h6, h⟩ := frameD_iff.mp f
  exact frameD_iff.mpr ⟨Y, a.mono hb, h5, Nat.le_trans h6 hb, h⟩

/-- `append` / `prepend` / `insert`: the fresh node is not older than the invocation, and counters
    of old nodes stay or drop to 1 -/
theorem framed_added {l SL b l' SL' m cap b0 rest} (r : Rep l SL b) (A : Added l SL b l' SL')
    (f : FrameD l SL b m cap b0 rest) : FrameD l' SL' (b + 1) m cap b0 rest := by
  obtain ⟨Y, a, h5, h6, h7, h8, h9, h10⟩ := frameD_iff.mp f
  obtain ⟨Y', a', hY⟩ := A.ahead a
  have hpres : ∀ e ∈ rest, SL'.present e.id = SL.present e.id := fun e he =>
    A.present_old (Nat.lt_of_lt_of_le (h10 e he) h6)
  refine frameD_iff.mpr ⟨Y', a', h5, Nat.le_succ_of_le h6, fun x hx hlt => ?_, ?_, fun e he hp => ?_, h10⟩
  · rcases hY.mem hx with rfl | hxY
    · omega
    · rcases A.counter_old r (a.suffix.subset hxY) with e | e <;> rw [e]
      · exact h7 x hxY hlt
      · exact h5
  · rw [hY.filter (by simpa using h6) (fun _ _ => rfl), h8]
    congr 1
    exact List.filter_congr fun e he => (hpres e he).symm
  · rw [hpres e he] at hp
    exact A.sub e (h9 e he hp)

theorem framed_remove {l SL b m cap b0 rest} (r : Rep l SL b) (f : FrameD l SL b m cap b0 rest) (h : Hd) :
    FrameD (l.remove h).1 (SL.remove h).1 b m cap b0 rest := by
  refine r.remove_ind (motive := fun x y => FrameD x.1 y.1 b m cap b0 rest) h (fun hp => ?_) f
  obtain ⟨Y, a, h5, h6, h7, h8, h9, h10⟩ := frameD_iff.mp f
  refine frameD_iff.mpr ⟨_, a.freeNode r hp, h5, h6, fun x hx hlt => ?_, ?_, fun e he hpe => ?_, h10⟩
  · obtain ⟨hxY, hne⟩ := List.mem_filter.mp hx
    rw [freeNode_counter, if_neg (by simpa using hne)]
    exact h7 x hxY hlt
  · rw [filter_present_erase, ← h8, List.filter_filter, List.filter_filter]
    exact List.filter_congr fun _ _ => Bool.and_comm _ _
  · rw [SList.present_erase, Bool.and_eq_true] at hpe
    exact SList.mem_erase.mpr ⟨h9 e he hpe.1, by simpa using hpe.2⟩

/-- drop the remaining snapshot up to and including the entry with handle `n` -/
def advance (n : Nat) (rest : List Entry) : List Entry := (rest.dropWhile (fun e => e.id != n)).tail

/-- ghost bookkeeping of one call: a callback older than the invocation is looked up in the
    remaining snapshot and the snapshot is advanced past it; a younger one leaves it alone -/
def Ghost.next (g : Ghost) (n' : Nat) : Ghost :=
  { g with rest := if n' < g.born then advance n' g.rest else g.rest, called := g.called ++ [n'] }

theorem advance_suffix (n : Nat) (rest : List Entry) : advance n rest <:+ rest :=
  List.IsSuffix.trans (List.tail_suffix _) (List.dropWhile_suffix _)

theorem none_present {SL : SList} {rest : List Entry}
    (h : (rest.filter (fun e => SL.present e.id)).map (·.id) = []) : ∀ e ∈ rest, SL.present e.id = false := by
  intro e he
  simpa using (List.filter_eq_nil_iff.mp (List.map_eq_nil_iff.mp h)) e he

theorem framed_done {l SL b m cap b0 rest} (r : Rep l SL b) (f : FrameD l SL b m cap b0 rest)
    (hs : seek l.heap cap (b + 1) (l.heap m).next = none) : ∀ e ∈ rest, SL.present e.id = false := by
  obtain ⟨Y, a, _, _, h7, h8, _⟩ := frameD_iff.mp f
  rw [a.seek_eq r, List.head?_eq_none_iff] at hs
  refine none_present (h8 ▸ List.filter_eq_nil_iff.mpr fun x hx hlt => ?_)
  exact List.filter_eq_nil_iff.mp hs x hx (by simpa using h7 x hx (by simpa using hlt))

/-- one step of a traversal, wrap or not: the node found by the skip loop is either a node allocated
    after the invocation started — the remaining snapshot stays — or the first entry of the
    remaining snapshot that is still in the list (exactly the Spec step), and the remaining
    snapshot advances past it (this is how `Ghost.next` updates `rest`) -/
theorem framed_step {l SL b m cap b0 rest n'} (r : Rep l SL b) (f : FrameD l SL b m cap b0 rest)
    (hs : seek l.heap cap (b + 1) (l.heap m).next = some n') :
    n' ∈ SL.ids ∧ FrameD l SL b n' cap b0 (if n' < b0 then advance n' rest else rest) ∧
    (n' < b0 → ∃ e es, rest.dropWhile (fun e => !SL.present e.id) = e :: es ∧ e.id = n' ∧
      advance n' rest = es ∧ (l.heap n').cb = e.cb) := by
  obtain ⟨Y, a, h5, h6, h7, h8, h9, h10⟩ := frameD_iff.mp f
  obtain ⟨l₁, l₂, rfl, hl₁, -, a'⟩ := a.seek_some r hs
  have hn'SL : n' ∈ SL.ids := a.suffix.subset (by simp)
  have hl₁0 : l₁.filter (fun n => decide (n < b0)) = [] :=
    List.filter_eq_nil_iff.mpr fun x hx hlt =>
      hl₁ x hx (h7 x (List.mem_append_left _ hx) (by simpa using hlt))
  have mk : ∀ rest' : List Entry,
      l₂.filter (fun n => decide (n < b0)) = ((rest'.filter (fun e => SL.present e.id)).map (·.id)) →
      (∀ e ∈ rest', e ∈ rest) → FrameD l SL b n' cap b0 rest' := fun rest' hfil hsub =>
    frameD_iff.mpr ⟨l₂, a', h5, h6, fun x hx => h7 x (by simp [hx]), hfil, fun e he => h9 e (hsub e he),
      fun e he => h10 e (hsub e he)⟩
  rw [List.filter_append, hl₁0, List.nil_append, List.filter_cons] at h8
  refine ⟨hn'SL, ?_⟩
  by_cases hlt : n' < b0
  · rw [if_pos (by simpa using hlt)] at h8
    obtain ⟨e, es, d1, d2, d3, d4, d5, d6⟩ := filter_map_cons_dropWhile h8.symm
    have d3' : e.id = n' := d3
    have ha : advance n' rest = es := by
      have hp : SL.present n' = true := SList.present_iff.mpr hn'SL
      have := dropWhile_agree (q := fun e : Entry => e.id != n') d1
        (fun x _ hx => by
          have : x.id ≠ n' := fun e => by rw [e, hp] at hx; cases hx
          simpa using this)
        (by simp [d3'])
      unfold advance
      rw [this]; rfl
    rw [if_pos hlt, ha]
    exact ⟨mk es d4.symm d6, fun _ => ⟨e, es, d1, d3', rfl, by rw [← d3']; exact r.cbs e (h9 e d5 d2)⟩⟩
  · rw [if_neg (by simpa using hlt)] at h8
    rw [if_neg hlt]
    exact ⟨mk rest h8 (fun e he => he), fun h => absurd h hlt⟩

theorem framed_start {l SL b n'} (r : Rep l SL b)
    (hs : seek l.heap l.cur (b + 1) l.head = some n') :
    ∃ e es, SL = e :: es ∧ e.id = n' ∧ (l.heap n').cb = e.cb ∧ advance n' SL = es ∧
      FrameD l SL b n' l.cur b es := by
  obtain ⟨e, es, rfl, rfl, hcb⟩ := seek_head r hs
  have w := r.wf
  have hall : ∀ x ∈ es, SList.present (e :: es) x.id = true := fun x hx =>
    SList.present_iff.mpr (SList.mem_ids_of_mem (List.mem_cons_of_mem _ hx))
  refine ⟨e, es, rfl, rfl, hcb, by simp [advance], frameD_iff.mpr ⟨_, Ahead.start l b e es, ?_, Nat.le_refl _,
    fun a ha _ => w.cnt a (List.mem_cons_of_mem _ ha), ?_, fun x hx _ => List.mem_cons_of_mem _ hx,
    fun x hx => w.lt _ (SList.mem_ids_of_mem (List.mem_cons_of_mem _ hx))⟩⟩
  · exact Nat.le_trans (Nat.pos_of_ne_zero ((w.live e.id).mp (by simp))) (w.cnt e.id (by simp))
  · rw [List.filter_eq_self.mpr hall, List.filter_eq_self.mpr]
    · rfl
    · intro a ha
      simpa using w.lt a (List.mem_cons_of_mem _ ha)

theorem framesub_seek {l SL b m cap rest} (r : Rep l SL b) (f : FrameSub l SL b m cap rest) :
    match seek l.heap cap (b + 1) (l.heap m).next with
    | none => ∀ e ∈ rest, SL.present e.id = false
    | some n' => n' ∈ SL.ids ∧
        ((∃ e es, rest.dropWhile (fun e => !SL.present e.id) = e :: es ∧ e.id = n' ∧
            (l.heap n').cb = e.cb ∧ FrameSub l SL b n' cap es) ∨
         ((∀ e ∈ rest, e.id ≠ n') ∧ FrameSub l SL b n' cap rest)) := by
  obtain ⟨Y, a, h6, h7, h8⟩ := frameSub_iff.mp f
  cases hs : seek l.heap cap (b + 1) (l.heap m).next with
  | none =>
    rw [a.seek_eq r, List.head?_eq_none_iff] at hs
    rw [hs] at h6
    exact none_present (List.sublist_nil.mp h6)
  | some n' =>
    obtain ⟨l₁, l₂, rfl, hl₁, hn', a'⟩ := a.seek_some r hs
    have hsuf : (n' :: l₂) <:+ SL.ids := (List.suffix_append l₁ _).trans a.suffix
    have hn'SL : n' ∈ SL.ids := hsuf.subset (by simp)
    have hn'l₂ : n' ∉ l₂ := (List.nodup_cons.mp (nodup_suffix hsuf r.wf.nodup)).1
    have hl₁0 : l₁.filter (fun n => decide ((l.heap n).counter ≤ cap)) = [] :=
      List.filter_eq_nil_iff.mpr (by simpa using hl₁)
    rw [List.filter_append, hl₁0, List.nil_append, List.filter_cons, if_pos (by simpa using hn')] at h6
    have mk : ∀ rest' : List Entry,
        List.Sublist ((rest'.filter (fun e => SL.present e.id)).map (·.id))
          (l₂.filter (fun n => decide ((l.heap n).counter ≤ cap))) →
        (∀ e ∈ rest', e ∈ rest) → FrameSub l SL b n' cap rest' := fun rest' hsl hsub =>
      frameSub_iff.mpr ⟨l₂, a', hsl, fun e he => h7 e (hsub e he), fun e he => h8 e (hsub e he)⟩
    refine ⟨hn'SL, ?_⟩
    generalize hL : (rest.filter (fun e => SL.present e.id)).map (·.id) = L at h6
    cases h6 with
    | cons _ hsl =>
      right
      refine ⟨fun e he heq => ?_, mk rest (by rw [hL]; exact hsl) (fun e he => he)⟩
      have hp : SL.present e.id = true := by rw [heq]; exact SList.present_iff.mpr hn'SL
      have : n' ∈ L := by
        rw [← hL, ← heq]
        exact List.mem_map.mpr ⟨e, List.mem_filter.mpr ⟨he, hp⟩, rfl⟩
      exact hn'l₂ (List.mem_filter.mp (hsl.subset this)).1
    | cons_cons _ hsl =>
      left
      obtain ⟨e, es, d1, d2, d3, d4, d5, d6⟩ := filter_map_cons_dropWhile hL
      have d3' : e.id = n' := d3
      refine ⟨e, es, d1, d3', ?_, mk es (by rw [d4]; exact hsl) d6⟩
      rw [← d3']; exact r.cbs e (h7 e d5 d2)

/-- Bookkeeping invariant of a ghost record w.r.t. the current list content `SL`: the snapshot is
    `done ++ rest`; the calls of callbacks older than the invocation are, in call order, a sublist
    of `done` (so: in snapshot order, none twice — the snapshot's handles are distinct); and every
    entry of `done` was called or is no longer in the list. -/
def GhostOK (SL : SList) (g : Ghost) : Prop :=
  ∃ done : List Entry, g.snap = done ++ g.rest ∧
    List.Sublist (g.called.filter (fun n => decide (n < g.born))) (SList.ids done) ∧
    (∀ e ∈ done, e.id ∈ g.called ∨ SL.present e.id = false) ∧
    (∀ e ∈ g.snap, e.id < g.born) ∧ (SList.ids g.snap).Nodup

/-- a handle that is not in the list stays out of it: `GhostOK` survives every change of the list
    that does not bring an old handle back -/
theorem GhostOK.transport {SL SL' : SList} {g : Ghost} (h : GhostOK SL g)
    (hp : ∀ x, x < g.born → SL'.present x = true → SL.present x = true) : GhostOK SL' g := by
  obtain ⟨done, h1, h2, h3, h4, h5⟩ := h
  refine ⟨done, h1, h2, fun e he => ?_, h4, h5⟩
  rcases h3 e he with hc | hn
  · exact Or.inl hc
  · right
    have hlt : e.id < g.born := h4 e (by rw [h1]; exact List.mem_append_left _ he)
    cases hq : SL'.present e.id with
    | false => rfl
    | true => rw [hp e.id hlt hq] at hn; cases hn

theorem ghostok_start {SL : SList} {b : Nat} {e : Entry} {es : List Entry} (hSL : SL = e :: es)
    (hnd : SL.ids.Nodup) (hlt : ∀ x ∈ SL, x.id < b) : GhostOK SL ⟨b, SL, es, [e.id]⟩ := by
  refine ⟨[e], by simp [hSL], ?_, fun x hx => ?_, hlt, hnd⟩
  · have : e.id < b := hlt e (by simp [hSL])
    simp [SList.ids, this]
  · simp at hx; subst hx; left; simp

theorem ghostok_step {SL : SList} {g : Ghost} {n' : Nat} (h : GhostOK SL g)
    (hold : n' < g.born → ∃ e es, g.rest.dropWhile (fun e => !SL.present e.id) = e :: es ∧ e.id = n' ∧
      advance n' g.rest = es) : GhostOK SL (g.next n') := by
  obtain ⟨done, h1, h2, h3, h4, h5⟩ := h
  have h3' : ∀ x ∈ done, x.id ∈ g.called ++ [n'] ∨ SL.present x.id = false := fun x hx =>
    (h3 x hx).imp_left (List.mem_append_left _)
  unfold GhostOK Ghost.next
  by_cases hlt : n' < g.born
  · obtain ⟨e, es, d1, rfl, d3⟩ := hold hlt
    -- the entries skipped before `e` are no longer in the list
    have hsplit := (List.takeWhile_append_dropWhile (p := fun e => !SL.present e.id) (l := g.rest)).symm
    have htw := List.all_eq_true.mp (List.all_takeWhile (p := fun e => !SL.present e.id) (l := g.rest))
    rw [d1] at hsplit
    generalize g.rest.takeWhile _ = pre at hsplit htw
    refine ⟨done ++ pre ++ [e], ?_, ?_, fun x hx => ?_, h4, h5⟩
    · rw [if_pos hlt, d3, h1, hsplit]; simp
    · simp only [List.filter_append, List.filter_cons, hlt, decide_true, if_true, List.filter_nil, SList.ids_append',
        List.append_assoc]
      exact h2.append (List.sublist_append_right _ _)
    · rcases List.mem_append.mp hx with hx | hx
      · rcases List.mem_append.mp hx with hx | hx
        · exact h3' x hx
        · exact .inr (by simpa using htw x hx)
      · cases List.mem_singleton.mp hx
        exact .inl (by simp)
  · refine ⟨done, by rw [if_neg hlt]; exact h1, ?_, h3', h4, h5⟩
    simpa [List.filter_append, hlt] using h2

/-- `GhostOK` alone is not stable: it needs `born ≤ b`, which `FrameD` provides -/
theorem framedG_stable (n cap : Nat) (g : Ghost) :
    OpStable false (fun l SL b => FrameD l SL b n cap g.born g.rest ∧ GhostOK SL g) where
  mono := fun ⟨f, k⟩ h => ⟨f.mono h, k⟩
  added := fun r A _ ⟨f, k⟩ => ⟨framed_added r A f, k.transport fun x hx hp =>
    A.present_old (Nat.lt_of_lt_of_le hx f.born_le) ▸ hp⟩
  remove := fun r ⟨f, k⟩ h => ⟨framed_remove r f h, k.transport fun x _ hp => by
    rw [SList.present_remove, Bool.and_eq_true] at hp; exact hp.1⟩
  cur := fun ⟨f, k⟩ _ _ => ⟨f, k⟩  -- `FrameD` does not read `cur`

/-- the ghost stack `gs` has one record per running traversal of the stack, in stack order, and
    every traversal satisfies `FrameD` with its record -/
inductive GStack (m : MCfg) (SLs : Nat → SList) : List MFrame → List Ghost → Prop
  | nil : GStack m SLs [] []
  | prog (p : Prog) {st gs} : GStack m SLs st gs → GStack m SLs (.prog p :: st) gs
  | wait (k : Res → Prog) {st gs} : GStack m SLs st gs → GStack m SLs (.wait k :: st) gs
  | iter {l n cap arg ho} {g : Ghost} {st gs} :
      FrameD (m.lists l) (SLs l) m.nextId n cap g.born g.rest → GhostOK (SLs l) g →
      GStack m SLs st gs → GStack m SLs (.iter l n cap arg ho :: st) (g :: gs)

theorem GStack.nil_inv {m SLs gs} (h : GStack m SLs [] gs) : gs = [] := by
  cases h; rfl

theorem GStack.prog_inv {m SLs p st gs} (h : GStack m SLs (.prog p :: st) gs) : GStack m SLs st gs := by
  cases h with
  | prog _ h => exact h

theorem GStack.wait_inv {m SLs k st gs} (h : GStack m SLs (.wait k :: st) gs) : GStack m SLs st gs := by
  cases h with
  | wait _ h => exact h

theorem GStack.iter_inv {m SLs l n cap arg ho st gs} (h : GStack m SLs (.iter l n cap arg ho :: st) gs) :
    ∃ g gs', gs = g :: gs' ∧ FrameD (m.lists l) (SLs l) m.nextId n cap g.born g.rest ∧
      GhostOK (SLs l) g ∧ GStack m SLs st gs' := by
  cases h with
  | iter ok gok h => exact ⟨_, _, rfl, ok, gok, h⟩

/-- the ghost-stack relation reads the configuration only through the list objects that have a
    running traversal, and the id bound -/
theorem GStack.transport {m SLs m' SLs'} {st gs} (h : GStack m SLs st gs)
    (H : ∀ l n cap g, busyOn MFrame.isIterOn st l = true →
      FrameD (m.lists l) (SLs l) m.nextId n cap g.born g.rest ∧ GhostOK (SLs l) g →
      FrameD (m'.lists l) (SLs' l) m'.nextId n cap g.born g.rest ∧ GhostOK (SLs' l) g) :
    GStack m' SLs' st gs := by
  induction h with
  | nil => exact .nil
  | prog p _ ih => exact .prog p (ih fun l n cap g hb => H l n cap g (busyOn_cons hb _))
  | wait k _ ih => exact .wait k (ih fun l n cap g hb => H l n cap g (busyOn_cons hb _))
  | @iter l n cap arg ho g st gs ok gok _ ih =>
    obtain ⟨ok', gok'⟩ := H l n cap g (by simp [busyOn, MFrame.isIterOn]) ⟨ok, gok⟩
    exact .iter ok' gok' (ih fun l n cap g hb => H l n cap g (busyOn_cons hb _))

theorem GStack.congr {m m' SLs st gs} (h : GStack m SLs st gs) (hl : m'.lists = m.lists)
    (hn : m'.nextId = m.nextId) : GStack m' SLs st gs :=
  h.transport (fun l n cap g _ ok => by rw [hl, hn]; exact ok)

/-- the content of list `l` of the world, read through `head` / `next`: short for `absList (m.lists l) (m.nextId + 1)`,
    which is also `(absCfg m p).lists l` (`absCfg_lists`) -/
def absL (m : MCfg) (l : Nat) : SList := absList (m.lists l) (m.nextId + 1)

/-- **the invariant of the ghost-instrumented Model machine**: every list object is well formed,
    and every running traversal satisfies `FrameD` w.r.t. the current list content and its ghost
    record.  No Spec machine, no hypothesis about wraps. -/
def GInv (m : MCfg) (gs : List Ghost) : Prop := MInv m ∧ GStack m (absL m) m.stack gs

theorem GInv.reps {m gs} (h : GInv m gs) (l : Nat) : Rep (m.lists l) (absL m l) m.nextId := h.1.rep l

theorem ginv_of {m0 m' : MCfg} {SLs : Nat → SList} {gs} (hr : ∀ l, Rep (m0.lists l) (SLs l) m0.nextId)
    (hl : m'.lists = m0.lists) (hn : m'.nextId = m0.nextId) (hs : GStack m0 SLs m'.stack gs) :
    GInv m' gs := by
  have hSL : SLs = absL m' := by
    funext l
    unfold absL
    rw [hl, hn, (hr l).abs]
  refine ⟨fun l => ⟨SLs l, by rw [hl, hn]; exact hr l⟩, ?_⟩
  rw [← hSL]
  exact hs.congr hl hn

theorem ginv_init {m : MCfg} (h : MInv m) {p : Prog} (hst : m.stack = [.prog p]) : GInv m [] := by
  refine ⟨h, ?_⟩
  rw [hst]
  exact .prog p .nil

/-- ghost effect of starting an invocation of list `l`: if a callback is called, push a record
    whose snapshot is the current content of the list, advanced past the callback called first -/
def gstart (m : MCfg) (l : Nat) (gs : List Ghost) : List Ghost :=
  match seek (m.lists l).heap (m.lists l).cur m.fuel (m.lists l).head with
  | none => gs
  | some n' =>
    ⟨m.nextId, absList (m.lists l) m.fuel, advance n' (absList (m.lists l) m.fuel), [n']⟩ :: gs

/-- ghost effect of one traversal step of the top invocation (on list `l`, standing on `n`) -/
def gnext (m : MCfg) (l n cap : Nat) (gs : List Ghost) : List Ghost :=
  match seek (m.lists l).heap cap m.fuel ((m.lists l).heap n).next with
  | none => gs.tail
  | some n' =>
    match gs with
    | g :: gs' => g.next n' :: gs'
    | [] => []

/-- The ghost stack after the step that `MCfg.step` takes from `m`.  It is computed from the Model
    configuration alone and never influences the Model run: pure bookkeeping. -/
def gstep (m : MCfg) (gs : List Ghost) : List Ghost :=
  match m.stack with
  | .prog (.ret v) :: .iter l n cap _ honour :: _ =>
    if honour && !v then gs.tail else gnext m l n cap gs
  | .prog (.op (.invoke l _) _) :: _ => gstart m l gs
  | .prog (.op (.enum l _) _) :: _ => gstart m l gs
  | _ => gs

theorem gstep_ret {m : MCfg} {gs v rest} (h : m.stack = .prog (.ret v) :: rest)
    (hni : ∀ l n cap arg ho below, rest ≠ .iter l n cap arg ho :: below) : gstep m gs = gs := by
  unfold gstep; rw [h]
  split
  · next e => injection e with _ e; exact absurd e (hni _ _ _ _ _ _)
  all_goals first | rfl | (next e => cases e)
theorem gstep_ret_iter {m : MCfg} {gs v l n cap arg honour below}
    (h : m.stack = .prog (.ret v) :: .iter l n cap arg honour :: below) :
    gstep m gs = if honour && !v then gs.tail else gnext m l n cap gs := by
  unfold gstep; rw [h]
theorem gstep_start {m : MCfg} {gs l arg ho k rest}
    (h : m.stack = .prog (.op (bif ho then .enum l arg else .invoke l arg) k) :: rest) :
    gstep m gs = gstart m l gs := by
  unfold gstep; rw [h]; cases ho <;> rfl
theorem gstep_op {m : MCfg} {gs cmd k rest} (h : m.stack = .prog (.op cmd k) :: rest)
    (ht : cmd.traverses = false) : gstep m gs = gs := by
  unfold gstep; rw [h]
  cases cmd <;> first | rfl | cases ht

theorem gstack_deliver {m : MCfg} {SLs below gs} (h : GStack m SLs below gs) (r : Res) :
    GStack m SLs (m.deliver r below).stack gs := by
  cases below with
  | nil => exact h
  | cons f rest =>
    cases f with
    | prog p => exact h
    | iter l n cap arg ho => exact h
    | wait k => exact .prog _ h.wait_inv

theorem ginv_deliver {m : MCfg} {SLs : Nat → SList} {below gs}
    (hr : ∀ l, Rep (m.lists l) (SLs l) m.nextId) (h : GStack m SLs below gs) (r : Res) :
    GInv (m.deliver r below) gs :=
  ginv_of hr (by simp) (by simp) (gstack_deliver h r)


/-- **every step keeps the invariant** — no hypothesis about wraps -/
theorem ginv_step (beh : Beh) {m m' : MCfg} {gs : List Ghost} (h : GInv m gs)
    (st : MCfg.step beh m = some m') : GInv m' (gstep m gs) := by
  have hr := h.reps
  have hs := h.2
  cases MCfg.step_inv st with
  | ret hm hni =>
    rw [hm] at hs
    rw [gstep_ret hm hni]
    exact ginv_of hr rfl rfl hs.prog_inv
  | stop hm hc =>
    rw [hm] at hs
    rw [gstep_ret_iter hm, if_pos hc]
    obtain ⟨g, gs', rfl, _, _, hbelow⟩ := hs.prog_inv.iter_inv
    exact ginv_deliver hr hbelow _
  | next_none hm hc hsk =>
    rw [hm] at hs
    simp only [gstep_ret_iter hm, hc, gnext, hsk]
    obtain ⟨g, gs', rfl, _, _, hbelow⟩ := hs.prog_inv.iter_inv
    exact ginv_deliver hr hbelow _
  | next_some hm hc hsk =>
    rw [hm] at hs
    simp only [gstep_ret_iter hm, hc, gnext, hsk]
    obtain ⟨g, gs', rfl, ok, gok, hbelow⟩ := hs.prog_inv.iter_inv
    obtain ⟨_, ok', hold⟩ := framed_step (hr _) ok hsk
    refine ginv_of hr rfl rfl (.prog _ (.iter ok' (ghostok_step gok fun hlt => ?_) hbelow))
    obtain ⟨e, es, d1, d2, d4, _⟩ := hold hlt
    exact ⟨e, es, d1, d2, d4⟩
  | start_none hm hsk =>
    rw [hm] at hs
    simp only [gstep_start hm, gstart, hsk]
    exact ginv_deliver hr (.wait _ hs.prog_inv) _
  | @start_some l _ _ _ _ n' hm hsk =>
    rw [hm] at hs
    simp only [gstep_start hm, gstart, hsk]
    obtain ⟨e, es, hSL, he, _, ha, hf⟩ := framed_start (hr l) hsk
    have hab : absList (m.lists l) m.fuel = absL m l := rfl
    rw [hab, ha]
    refine ginv_of hr rfl rfl (.prog _ (.iter hf ?_ (.wait _ hs.prog_inv)))
    rw [← he]
    exact ghostok_start hSL (hr l).wf.nodup (fun x hx => (hr l).wf.lt _ (SList.mem_ids_of_mem hx))
  | op hm ht =>
    rw [hm] at hs
    rw [gstep_op hm ht]
    exact ⟨minv_apply h.1 _ _, .prog _ (hs.prog_inv.transport fun l n cap g hb =>
      (MCfg.apply_stable_abs h.1 _ _).2 (framedG_stable n cap g) hb)⟩

/-- run at most `n` steps of the Model machine, with the ghost stack alongside -/
def grunN (beh : Beh) : Nat → MCfg → List Ghost → MCfg × List Ghost
  | 0, c, gs => (c, gs)
  | n + 1, c, gs => match MCfg.step beh c with
    | none => (c, gs)
    | some c' => grunN beh n c' (gstep c gs)

/-- the ghost stack is only an annotation: the Model component is the plain run -/
theorem grunN_fst (beh : Beh) : ∀ (n : Nat) (m : MCfg) (gs : List Ghost),
    (grunN beh n m gs).1 = (MCfg.runN beh n m).1
  | 0, _, _ => rfl
  | n + 1, m, gs => by
    unfold grunN MCfg.runN
    cases MCfg.step beh m with
    | none => rfl
    | some m' => exact grunN_fst beh n m' _

theorem ginv_runN (beh : Beh) : ∀ (n : Nat) {m : MCfg} {gs : List Ghost}, GInv m gs →
    GInv (grunN beh n m gs).1 (grunN beh n m gs).2
  | 0, _, _, h => h
  | n + 1, m, gs, h => by
    unfold grunN
    cases hm : MCfg.step beh m with
    | none => exact h
    | some m' => exact ginv_runN beh n (ginv_step beh h hm)

end Evp
