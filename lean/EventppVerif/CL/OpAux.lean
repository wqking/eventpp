import EventppVerif.CL.Inv
import EventppVerif.CL.WFOps
import EventppVerif.CL.SpecLaws
/-
  `Rep` across the primitive link / unlink steps of the list object, and the content of an object read
  through `head` / `next` (`absList`): for an object that represents a list it is that list (`Rep.abs`).
-/
namespace Evp

theorem Rep.present_eq {l SL b} (r : Rep l SL b) (h : Hd) : decide ((l.heap h).counter ≠ 0) = SL.present h := by
  rw [Bool.eq_iff_iff, SList.present_iff, r.wf.live h]
  simp

theorem Rep.chain {l SL b} (r : Rep l SL b) : chainOf l.heap (b + 1) l.head = SL.ids :=
  chainOf_seg r.wf.fwd (Nat.lt_succ_of_le r.wf.length_le)

/-- The content of a list object read through `head` / `next` (bounded walk): handles and stored
    callbacks in chain order. -/
def absList (l : CL) (fuel : Nat) : SList :=
  (chainOf l.heap fuel l.head).map (fun n => ⟨n, (l.heap n).cb⟩)

theorem Rep.abs {l SL b} (r : Rep l SL b) : absList l (b + 1) = SL := by
  unfold absList
  rw [r.chain]
  simp only [SList.ids, List.map_map]
  conv => rhs; rw [← List.map_id SL]
  apply List.map_congr_left
  intro e he
  show (⟨e.id, (l.heap e.id).cb⟩ : Entry) = e
  rw [r.cbs e he]

theorem Rep.unique {l SL SL' b} (r : Rep l SL b) (r' : Rep l SL' b) : SL = SL' := by
  rw [← r.abs, ← r'.abs]

theorem append_eq (l : CL) (fuel id : Nat) (cb : Cb) :
    l.append fuel id cb = (l.nextCounter fuel).1.linkBack id cb (l.nextCounter fuel).2 := rfl
theorem prepend_eq (l : CL) (fuel id : Nat) (cb : Cb) :
    l.prepend fuel id cb = (l.nextCounter fuel).1.linkFront id cb (l.nextCounter fuel).2 := rfl
theorem insert_eq (l : CL) (fuel id : Nat) (cb : Cb) (before : Hd) :
    l.insert fuel id cb before =
      if ((l.nextCounter fuel).1.heap before).counter ≠ 0
      then (l.nextCounter fuel).1.linkBefore id cb (l.nextCounter fuel).2 before
      else (l.nextCounter fuel).1.linkBack id cb (l.nextCounter fuel).2 := rfl

theorem rep_nextCounter {l SL b} (r : Rep l SL b) :
    Rep (l.nextCounter (b + 1)).1 SL b ∧ (l.nextCounter (b + 1)).2 ≠ 0 ∧
    (l.nextCounter (b + 1)).2 ≤ (l.nextCounter (b + 1)).1.cur := by
  obtain ⟨w, h1, h2, h3⟩ := r.wf.nextCounter
  refine ⟨⟨w, fun e he => ?_, fun n hn => ?_⟩, h1, h2⟩
  · rw [(h3 e.id).2.2.1]; exact r.cbs e he
  · rw [(h3 n).2.2.2]; exact r.fresh n hn

/-- the Spec list `SL'` is `SL` with the entry `⟨id, cb⟩` put between the parts whose ids are `P` and `Q` -/
structure Inserted (SL SL' : SList) (id : Hd) (cb : Cb) (P Q : List Nat) : Prop where
  ids : SL.ids = P ++ Q
  ids' : SL'.ids = P ++ id :: Q
  mem : ∀ e, e ∈ SL' ↔ e = ⟨id, cb⟩ ∨ e ∈ SL

theorem SList.append_inserted (SL : SList) (id cb) : Inserted SL (SL.append id cb) id cb SL.ids [] :=
  ⟨(List.append_nil _).symm, SList.ids_append SL id cb, fun e => by simp [SList.append, or_comm]⟩

theorem SList.prepend_inserted (SL : SList) (id cb) : Inserted SL (SL.prepend id cb) id cb [] SL.ids :=
  ⟨rfl, SList.ids_prepend SL id cb, fun _ => List.mem_cons⟩

theorem SList.insert_inserted {SL : SList} {P Q before} (id cb) (hPQ : SL.ids = P ++ before :: Q)
    (hnd : SL.ids.Nodup) : Inserted SL (SL.insert id cb before) id cb P (before :: Q) := by
  have hp : SL.present before = true := SList.present_iff.mpr (by simp [hPQ])
  rw [SList.insert, if_pos hp]
  exact ⟨hPQ, SList.ids_insertBefore hPQ (nodup_split (hPQ ▸ hnd)).2.2.1, fun e => SList.mem_insertBefore⟩

theorem Linked.rep {l l' SL SL' id cb c P Q b b'} (k : Linked l l' id cb c P Q) (i : Inserted SL SL' id cb P Q)
    (r : Rep l SL b) (hid : (l.heap id).counter = 0) (hc0 : c ≠ 0) (hc : c ≤ l.cur) (hbb : b ≤ b')
    (hidb : id < b') : Rep l' SL' b' := by
  refine ⟨i.ids' ▸ k.wf (i.ids ▸ r.wf) hid hc0 hc hbb hidb, fun e he => ?_, fun n hn => ?_⟩
  · rw [k.cb]
    rcases (i.mem e).mp he with rfl | he
    · exact if_pos rfl
    · rw [if_neg, r.cbs e he]
      exact fun e' => (r.wf.live e.id).mp (SList.mem_ids_of_mem he) (e' ▸ hid)
  · rw [k.counter, if_neg (by omega)]
    exact r.fresh n (by omega)

theorem rep_linkBack {l SL b cb c} (r : Rep l SL b) (hc0 : c ≠ 0) (hc : c ≤ l.cur) :
    Rep (l.linkBack b cb c) (SL.append b cb) (b + 1) :=
  have hid := r.fresh b (Nat.le_refl b)
  (r.wf.linkBack_linked hid cb c).rep (SL.append_inserted b cb) r hid hc0 hc (Nat.le_succ b) (Nat.lt_succ_self b)

theorem rep_freeNode {l SL b h} (r : Rep l SL b) (hp : SL.present h = true) :
    Rep (l.freeNode h) (SL.erase h) b := by
  obtain ⟨P, Q, hPQ⟩ := List.append_of_mem (SList.present_iff.mp hp)
  have w := r.wf
  rw [hPQ] at w
  obtain ⟨n1, n2, n3, n4, n5, n6⟩ := nodup_split w.nodup
  refine ⟨?_, fun e he => ?_, fun n hn => ?_⟩
  · rw [SList.ids_erase, hPQ, filter_ne_split n3 n4]
    exact w.freeNode
  · rw [freeNode_cb]
    exact r.cbs e (SList.mem_erase.mp he).1
  · rw [freeNode_counter]
    split
    · rfl
    · exact r.fresh n hn

theorem clone_eq (l : CL) (fuel id : Nat) :
    l.clone fuel id =
      { heap := (cloneChain ((chainOf l.heap fuel l.head).map (fun n => (l.heap n).cb)) id 1 {} none).1
        head := if ((chainOf l.heap fuel l.head).map (fun n => (l.heap n).cb)).isEmpty then none else some id
        tail := (cloneChain ((chainOf l.heap fuel l.head).map (fun n => (l.heap n).cb)) id 1 {} none).2
        cur := 1, M := l.M, ub := false } := rfl

theorem cloneChain_step {l SL b} (r : Rep l SL b) (cb : Cb) (rest : List Cb) :
    cloneChain (cb :: rest) b 1 l.heap l.tail =
      cloneChain rest (b + 1) 1 (l.linkBack b cb 1).heap (l.linkBack b cb 1).tail := by
  have w := r.wf
  rcases List.eq_nil_or_concat SL with rfl | ⟨P, t, rfl⟩
  · have ht : l.tail = none := w.tail_eq
    rw [linkBack_nil _ _ _ _ w.head_eq]
    simp [cloneChain, ht]
  · rw [List.concat_eq_append] at *
    have ht : l.tail = some t.id := by simpa [SList.ids] using w.tail_eq
    obtain ⟨hd, hhd⟩ : ∃ hd, l.head = some hd := by
      rw [w.head_eq]; cases P <;> simp [SList.ids]
    rw [linkBack_cons _ _ _ _ hhd ht]
    have htb : t.id ≠ b := Nat.ne_of_lt (w.lt _ (by simp [SList.ids]))
    simp [cloneChain, ht, htb]

theorem cloneChain_rep : ∀ (Src : SList) (l : CL) (SL : SList) (b : Nat), Rep l SL b → 1 ≤ l.cur →
    Rep { l with
          heap := (cloneChain (Src.map (·.cb)) b 1 l.heap l.tail).1
          head := if SL = [] then (if Src = [] then none else some b) else l.head
          tail := (cloneChain (Src.map (·.cb)) b 1 l.heap l.tail).2 }
      (SL ++ Src.cloneWith b) (b + Src.length)
  | [], l, SL, b, r, _ => by
    have hh : (if SL = [] then none else l.head) = l.head := by
      split
      · subst SL; exact r.wf.head_eq.symm
      · rfl
    simpa [cloneChain, SList.cloneWith, hh] using r
  | e :: rest, l, SL, b, r, hc => by
    have k := r.wf.linkBack_linked (r.fresh b (Nat.le_refl b)) e.cb 1
    have ih := cloneChain_rep rest _ _ _ (rep_linkBack r (by simp) hc) (k.cur ▸ hc)
    rw [if_neg (by simp [SList.append]), ← cloneChain_step r e.cb, k.head, k.cur, k.M, k.ub] at ih
    simpa [SList.ids, SList.append, SList.cloneWith, Nat.add_assoc, Nat.add_comm 1] using ih

end Evp
