import EventppVerif.CL.Machine
import EventppVerif.CL.ListLemmas
/-
  Facts about the two machines of CL/Machine.lean alone — no heap invariant, no simulation: what `deliver`,
  `seekCall` and `apply` leave alone, the equations of `step` (one per shape of the stack), the inversion of a step
  (`MCfg.Step` / `MCfg.step_inv` with named cases for the Model, `SCfg.step_inv` for the Spec), and the induction
  over a run.
-/
namespace Evp

theorem busyOn_cons {F : Type} {isIterOn : F → Nat → Bool} {st : List F} {l : Nat}
    (h : busyOn isIterOn st l = true) (f : F) : busyOn isIterOn (f :: st) l = true := by
  simp only [busyOn, List.any_cons] at h ⊢; simp [h]

theorem busyOn_of_mem {st : List MFrame} {l n cap arg ho} (h : MFrame.iter l n cap arg ho ∈ st) :
    busyOn MFrame.isIterOn st l = true :=
  List.any_eq_true.mpr ⟨_, h, by simp [MFrame.isIterOn]⟩

/-- the command starts a traversal -/
def Cmd.traverses : Cmd → Bool
  | .invoke _ _ => true
  | .enum _ _ => true
  | _ => false

/-- a traversal is `invoke` or `enum`; `ho` (does it honour the verdicts) tells which -/
theorem Cmd.of_traverses : ∀ {cmd : Cmd}, cmd.traverses = true →
    ∃ l arg ho, cmd = bif ho then .enum l arg else .invoke l arg
  | .invoke l arg, _ => ⟨l, arg, false, rfl⟩
  | .enum l arg, _ => ⟨l, arg, true, rfl⟩

namespace MCfg
@[simp] theorem deliver_lists (c : MCfg) (r st) : (c.deliver r st).lists = c.lists := by
  unfold deliver; split <;> rfl
@[simp] theorem deliver_nextId (c : MCfg) (r st) : (c.deliver r st).nextId = c.nextId := by
  unfold deliver; split <;> rfl
@[simp] theorem deliver_nlists (c : MCfg) (r st) : (c.deliver r st).nlists = c.nlists := by
  unfold deliver; split <;> rfl
@[simp] theorem deliver_wraps (c : MCfg) (r st) : (c.deliver r st).wraps = c.wraps := by
  unfold deliver; split <;> rfl
@[simp] theorem seekCall_lists (beh) (c : MCfg) (l st cap arg ho bl) :
    (seekCall beh c l st cap arg ho bl).lists = c.lists := by
  unfold seekCall; split <;> simp
@[simp] theorem seekCall_nextId (beh) (c : MCfg) (l st cap arg ho bl) :
    (seekCall beh c l st cap arg ho bl).nextId = c.nextId := by
  unfold seekCall; split <;> simp
@[simp] theorem seekCall_nlists (beh) (c : MCfg) (l st cap arg ho bl) :
    (seekCall beh c l st cap arg ho bl).nlists = c.nlists := by
  unfold seekCall; split <;> simp
@[simp] theorem seekCall_wraps (beh) (c : MCfg) (l st cap arg ho bl) :
    (seekCall beh c l st cap arg ho bl).wraps = c.wraps := by
  unfold seekCall; split <;> simp

/-- the configuration after a command that is not a traversal (the last clause of `step`): `apply`, then the result is
    recorded in the trace and handed to the continuation -/
def applyStep (c : MCfg) (cmd : Cmd) (k : Res → Prog) (rest : List MFrame) : MCfg :=
  { (c.apply (busyOn MFrame.isIterOn rest) cmd).1 with
    stack := .prog (k (c.apply (busyOn MFrame.isIterOn rest) cmd).2) :: rest
    trace := .res (c.apply (busyOn MFrame.isIterOn rest) cmd).2 ::
      (c.apply (busyOn MFrame.isIterOn rest) cmd).1.trace }

theorem step_nil {beh} {c : MCfg} (h : c.stack = []) : step beh c = none := by
  unfold step; rw [h]
theorem step_wait {beh} {c : MCfg} {k rest} (h : c.stack = .wait k :: rest) : step beh c = none := by
  unfold step; rw [h]
theorem step_iter {beh} {c : MCfg} {l n cap arg ho rest} (h : c.stack = .iter l n cap arg ho :: rest) :
    step beh c = none := by
  unfold step; rw [h]
theorem step_ret_iter {beh} {c : MCfg} {v l n cap arg honour below}
    (h : c.stack = .prog (.ret v) :: .iter l n cap arg honour :: below) :
    step beh c = if honour && !v then some (c.deliver (finishRes honour false) below)
      else some (seekCall beh c l ((c.lists l).heap n).next cap arg honour below) := by
  unfold step; rw [h]
theorem step_ret_nil {beh} {c : MCfg} {v} (h : c.stack = [.prog (.ret v)]) :
    step beh c = some { c with stack := [] } := by
  unfold step; rw [h]
theorem step_ret_prog {beh} {c : MCfg} {v p rest} (h : c.stack = .prog (.ret v) :: .prog p :: rest) :
    step beh c = some { c with stack := .prog p :: rest } := by
  unfold step; rw [h]
theorem step_ret_wait {beh} {c : MCfg} {v k rest} (h : c.stack = .prog (.ret v) :: .wait k :: rest) :
    step beh c = some { c with stack := .wait k :: rest } := by
  unfold step; rw [h]
theorem step_invoke {beh} {c : MCfg} {l arg k rest} (h : c.stack = .prog (.op (.invoke l arg) k) :: rest) :
    step beh c = some (seekCall beh c l (c.lists l).head (c.lists l).cur arg false (.wait k :: rest)) := by
  unfold step; rw [h]
theorem step_enum {beh} {c : MCfg} {l arg k rest} (h : c.stack = .prog (.op (.enum l arg) k) :: rest) :
    step beh c = some (seekCall beh c l (c.lists l).head (c.lists l).cur arg true (.wait k :: rest)) := by
  unfold step; rw [h]
theorem step_op {beh} {c : MCfg} {cmd k rest} (h : c.stack = .prog (.op cmd k) :: rest)
    (ht : cmd.traverses = false) : step beh c = some (c.applyStep cmd k rest) := by
  unfold step; rw [h]
  cases cmd <;> first | rfl | cases ht
end MCfg

namespace SCfg
@[simp] theorem deliver_lists (c : SCfg) (r st) : (c.deliver r st).lists = c.lists := by
  unfold deliver; split <;> rfl
@[simp] theorem deliver_nextId (c : SCfg) (r st) : (c.deliver r st).nextId = c.nextId := by
  unfold deliver; split <;> rfl
@[simp] theorem deliver_nlists (c : SCfg) (r st) : (c.deliver r st).nlists = c.nlists := by
  unfold deliver; split <;> rfl
@[simp] theorem seekCall_lists (beh) (c : SCfg) (l snap arg ho bl) :
    (seekCall beh c l snap arg ho bl).lists = c.lists := by
  unfold seekCall; split <;> simp
@[simp] theorem seekCall_nextId (beh) (c : SCfg) (l snap arg ho bl) :
    (seekCall beh c l snap arg ho bl).nextId = c.nextId := by
  unfold seekCall; split <;> simp
@[simp] theorem seekCall_nlists (beh) (c : SCfg) (l snap arg ho bl) :
    (seekCall beh c l snap arg ho bl).nlists = c.nlists := by
  unfold seekCall; split <;> simp

def applyStep (c : SCfg) (cmd : Cmd) (k : Res → Prog) (rest : List SFrame) : SCfg :=
  { (c.apply (busyOn SFrame.isIterOn rest) cmd).1 with
    stack := .prog (k (c.apply (busyOn SFrame.isIterOn rest) cmd).2) :: rest
    trace := .res (c.apply (busyOn SFrame.isIterOn rest) cmd).2 ::
      (c.apply (busyOn SFrame.isIterOn rest) cmd).1.trace }

theorem step_nil {beh} {c : SCfg} (h : c.stack = []) : step beh c = none := by
  unfold step; rw [h]
theorem step_wait {beh} {c : SCfg} {k rest} (h : c.stack = .wait k :: rest) : step beh c = none := by
  unfold step; rw [h]
theorem step_iter {beh} {c : SCfg} {l sn arg ho rest} (h : c.stack = .iter l sn arg ho :: rest) :
    step beh c = none := by
  unfold step; rw [h]
theorem step_ret_iter {beh} {c : SCfg} {v l snap arg honour below}
    (h : c.stack = .prog (.ret v) :: .iter l snap arg honour :: below) :
    step beh c = if honour && !v then some (c.deliver (MCfg.finishRes honour false) below)
      else some (seekCall beh c l snap arg honour below) := by
  unfold step; rw [h]
theorem step_ret_nil {beh} {c : SCfg} {v} (h : c.stack = [.prog (.ret v)]) :
    step beh c = some { c with stack := [] } := by
  unfold step; rw [h]
theorem step_ret_prog {beh} {c : SCfg} {v p rest} (h : c.stack = .prog (.ret v) :: .prog p :: rest) :
    step beh c = some { c with stack := .prog p :: rest } := by
  unfold step; rw [h]
theorem step_ret_wait {beh} {c : SCfg} {v k rest} (h : c.stack = .prog (.ret v) :: .wait k :: rest) :
    step beh c = some { c with stack := .wait k :: rest } := by
  unfold step; rw [h]
theorem step_invoke {beh} {c : SCfg} {l arg k rest} (h : c.stack = .prog (.op (.invoke l arg) k) :: rest) :
    step beh c = some (seekCall beh c l (c.lists l) arg false (.wait k :: rest)) := by
  unfold step; rw [h]
theorem step_enum {beh} {c : SCfg} {l arg k rest} (h : c.stack = .prog (.op (.enum l arg) k) :: rest) :
    step beh c = some (seekCall beh c l (c.lists l) arg true (.wait k :: rest)) := by
  unfold step; rw [h]
theorem step_op {beh} {c : SCfg} {cmd k rest} (h : c.stack = .prog (.op cmd k) :: rest)
    (ht : cmd.traverses = false) : step beh c = some (c.applyStep cmd k rest) := by
  unfold step; rw [h]
  cases cmd <;> first | rfl | cases ht

/-- what `seekCall` does: it calls the first entry of the snapshot that is still in the list, or ends the traversal -/
theorem seekCall_cases (beh : Beh) (c : SCfg) (l : Nat) (snap : List Entry) (arg : Nat) (honour : Bool)
    (below : List SFrame) :
    (∃ e es, e ∈ snap ∧ (∀ x ∈ es, x ∈ snap) ∧ (c.lists l).present e.id = true ∧
      seekCall beh c l snap arg honour below =
        { c with
          trace := .call ⟨l, e.id, e.cb, arg, honour⟩ :: c.trace
          stack := .prog (beh ⟨l, e.id, e.cb, arg, honour⟩ (countCalls c.trace e.cb)) ::
            .iter l es arg honour :: below }) ∨
    ((∀ e ∈ snap, (c.lists l).present e.id = false) ∧
      seekCall beh c l snap arg honour below = c.deliver (MCfg.finishRes honour true) below) := by
  unfold seekCall
  split
  · rename_i hd
    have := List.filter_eq_nil_iff.mp (dropWhile_not_nil (p := fun e : Entry => (c.lists l).present e.id) hd)
    exact .inr ⟨fun e he => Bool.eq_false_iff.mpr (this e he), rfl⟩
  · rename_i e es hd
    obtain ⟨hp, _, he, hes⟩ := dropWhile_not_cons (p := fun e : Entry => (c.lists l).present e.id) hd
    exact .inl ⟨e, es, he, hes, hp, rfl⟩

/-- on the fields, so that it rewrites any record: `seekCall` reads the lists and the trace of its
    configuration, not the stack -/
theorem seekCall_cons {beh ls ni tr st nl l arg ho below} {e : Entry} {es : List Entry}
    (hp : (ls l).present e.id = true) :
    seekCall beh ⟨ls, ni, tr, st, nl⟩ l (e :: es) arg ho below =
      ⟨ls, ni, .call ⟨l, e.id, e.cb, arg, ho⟩ :: tr,
        .prog (beh ⟨l, e.id, e.cb, arg, ho⟩ (countCalls tr e.cb)) :: .iter l es arg ho :: below, nl⟩ := by
  unfold seekCall
  simp [List.dropWhile, hp]

theorem step_inv {beh : Beh} {c c' : SCfg} (hs : step beh c = some c') :
    (∃ v st, c.stack = .prog (.ret v) :: st ∧ c' = { c with stack := st }) ∨
    (∃ v l snap arg ho below, c.stack = .prog (.ret v) :: .iter l snap arg ho :: below ∧
      (c' = c.deliver (MCfg.finishRes ho false) below ∨ c' = seekCall beh c l snap arg ho below)) ∨
    (∃ l arg ho k rest, c.stack = .prog (.op (if ho then .enum l arg else .invoke l arg) k) :: rest ∧
      c' = seekCall beh c l (c.lists l) arg ho (.wait k :: rest)) ∨
    (∃ cmd k rest, c.stack = .prog (.op cmd k) :: rest ∧ c' = c.applyStep cmd k rest) := by
  unfold step at hs
  split at hs
  · cases hs
  · rename_i v l snap arg ho below hst
    refine .inr (.inl ⟨v, l, snap, arg, ho, below, hst, ?_⟩)
    split at hs <;> cases hs
    · exact .inl rfl
    · exact .inr rfl
  · rename_i v st _ hst
    cases hs; exact .inl ⟨v, st, hst, rfl⟩
  · rename_i l arg k rest hst
    cases hs; exact .inr (.inr (.inl ⟨l, arg, false, k, rest, hst, rfl⟩))
  · rename_i l arg k rest hst
    cases hs; exact .inr (.inr (.inl ⟨l, arg, true, k, rest, hst, rfl⟩))
  · rename_i cmd k rest _ _ hst
    cases hs; exact .inr (.inr (.inr ⟨cmd, k, rest, hst, rfl⟩))
  · cases hs
  · cases hs
end SCfg


/-- the traversal of list `l` calls node `n'`: what `seekCall` does when its skip loop finds `n'` -/
def MCfg.call (m : MCfg) (beh : Beh) (l n' cap arg : Nat) (ho : Bool) (below : List MFrame) : MCfg :=
  { m with
    trace := .call ⟨l, n', ((m.lists l).heap n').cb, arg, ho⟩ :: m.trace
    stack := .prog (beh ⟨l, n', ((m.lists l).heap n').cb, arg, ho⟩ (countCalls m.trace ((m.lists l).heap n').cb)) ::
      .iter l n' cap arg ho :: below }

/-- What a step of the Model machine is: the callback or program on top returns (onto a frame that
    is not a traversal; onto a traversal that stops, ends, or calls the next node), a traversal
    starts (`ho` tells `enum` from `invoke`) and ends at once or calls its first node, or another
    command is executed. -/
inductive MCfg.Step (beh : Beh) (m : MCfg) : MCfg → Prop
  | ret {v rest} : m.stack = .prog (.ret v) :: rest →
      (∀ l n cap arg ho below, rest ≠ .iter l n cap arg ho :: below) → Step beh m { m with stack := rest }
  | stop {v l n cap arg ho below} : m.stack = .prog (.ret v) :: .iter l n cap arg ho :: below →
      (ho && !v) = true → Step beh m (m.deliver (finishRes ho false) below)
  | next_none {v l n cap arg ho below} : m.stack = .prog (.ret v) :: .iter l n cap arg ho :: below →
      (ho && !v) = false → seek (m.lists l).heap cap m.fuel ((m.lists l).heap n).next = none →
      Step beh m (m.deliver (finishRes ho true) below)
  | next_some {v l n cap arg ho below n'} : m.stack = .prog (.ret v) :: .iter l n cap arg ho :: below →
      (ho && !v) = false → seek (m.lists l).heap cap m.fuel ((m.lists l).heap n).next = some n' →
      Step beh m (m.call beh l n' cap arg ho below)
  | start_none {l arg ho k rest} :
      m.stack = .prog (.op (bif ho then .enum l arg else .invoke l arg) k) :: rest →
      seek (m.lists l).heap (m.lists l).cur m.fuel (m.lists l).head = none →
      Step beh m (m.deliver (finishRes ho true) (.wait k :: rest))
  | start_some {l arg ho k rest n'} :
      m.stack = .prog (.op (bif ho then .enum l arg else .invoke l arg) k) :: rest →
      seek (m.lists l).heap (m.lists l).cur m.fuel (m.lists l).head = some n' →
      Step beh m (m.call beh l n' (m.lists l).cur arg ho (.wait k :: rest))
  | op {cmd k rest} : m.stack = .prog (.op cmd k) :: rest → cmd.traverses = false →
      Step beh m (m.applyStep cmd k rest)

theorem MCfg.seekCall_step {beh : Beh} {m : MCfg} {l : Nat} {start : Option Nat} {cap arg : Nat} {ho : Bool}
    {below : List MFrame} {P : MCfg → Prop}
    (none : seek (m.lists l).heap cap m.fuel start = none → P (m.deliver (finishRes ho true) below))
    (some : ∀ n', seek (m.lists l).heap cap m.fuel start = some n' → P (m.call beh l n' cap arg ho below)) :
    P (seekCall beh m l start cap arg ho below) := by
  unfold seekCall
  cases hs : seek (m.lists l).heap cap m.fuel start with
  | none => exact none hs
  | some n' => exact some n' hs

theorem MCfg.step_inv {beh : Beh} {m m' : MCfg} (st : MCfg.step beh m = some m') : MCfg.Step beh m m' := by
  unfold MCfg.step at st
  split at st
  · cases st
  · next h =>
    split at st <;> cases st
    · next hc => exact .stop h hc
    · next hc =>
      have hc := (Bool.not_eq_true _).mp hc
      exact seekCall_step (.next_none h hc) (fun _ => .next_some h hc)
  · next hni h => cases st; exact .ret h hni
  · next h => cases st; exact seekCall_step (.start_none (ho := false) h) (fun _ => .start_some (ho := false) h)
  · next h => cases st; exact seekCall_step (.start_none (ho := true) h) (fun _ => .start_some (ho := true) h)
  · next h1 h2 h =>
    cases st
    exact .op h (by cases ‹Cmd› <;> first | rfl | exact absurd rfl (h1 _ _) | exact absurd rfl (h2 _ _))
  · cases st
  · cases st

theorem MCfg.step_start {beh : Beh} {m : MCfg} {l arg ho k rest}
    (h : m.stack = .prog (.op (bif ho then .enum l arg else .invoke l arg) k) :: rest) :
    step beh m = some (seekCall beh m l (m.lists l).head (m.lists l).cur arg ho (.wait k :: rest)) := by
  cases ho
  · exact step_invoke h
  · exact step_enum h

theorem SCfg.step_start {beh : Beh} {c : SCfg} {l arg ho k rest}
    (h : c.stack = .prog (.op (bif ho then .enum l arg else .invoke l arg) k) :: rest) :
    step beh c = some (seekCall beh c l (c.lists l) arg ho (.wait k :: rest)) := by
  cases ho
  · exact step_invoke h
  · exact step_enum h

theorem MCfg.mem_deliver_stack {m : MCfg} {r : Res} {below : List MFrame} {l n cap arg ho}
    (h : MFrame.iter l n cap arg ho ∈ (m.deliver r below).stack) : MFrame.iter l n cap arg ho ∈ below := by
  unfold MCfg.deliver at h
  split at h
  · simpa using h
  · exact h

theorem MCfg.apply_fields (m : MCfg) (busy : Nat → Bool) (cmd : Cmd) :
    (m.apply busy cmd).1.trace = m.trace ∧ (m.apply busy cmd).1.nlists = m.nlists ∧ m.wraps ≤ (m.apply busy cmd).1.wraps := by
  cases cmd <;> simp only [MCfg.apply] <;> (repeat' split) <;> simp

theorem MCfg.apply_trace (m : MCfg) (busy : Nat → Bool) (cmd : Cmd) : (m.apply busy cmd).1.trace = m.trace :=
  (m.apply_fields busy cmd).1

theorem SCfg.apply_fields (s : SCfg) (busy : Nat → Bool) (cmd : Cmd) :
    (s.apply busy cmd).1.trace = s.trace ∧ (s.apply busy cmd).1.nlists = s.nlists ∧ (s.apply busy cmd).1.stack = s.stack := by
  cases cmd <;> simp only [SCfg.apply] <;> (repeat' split) <;> simp

theorem SCfg.apply_trace (s : SCfg) (busy : Nat → Bool) (cmd : Cmd) : (s.apply busy cmd).1.trace = s.trace :=
  (s.apply_fields busy cmd).1

theorem MCfg.step_cases {beh : Beh} {m m' : MCfg} (h : MCfg.step beh m = some m') :
    (m'.lists = m.lists ∧ m'.nextId = m.nextId ∧ m'.wraps = m.wraps) ∨
    ∃ busy cmd, m'.lists = (m.apply busy cmd).1.lists ∧ m'.nextId = (m.apply busy cmd).1.nextId ∧
      m'.wraps = (m.apply busy cmd).1.wraps := by
  cases MCfg.step_inv h with
  | op => exact .inr ⟨_, _, rfl, rfl, rfl⟩
  | _ => exact .inl (by simp [MCfg.call])

theorem wraps_mono_step (beh : Beh) {m m' : MCfg} (h : MCfg.step beh m = some m') : m.wraps ≤ m'.wraps := by
  rcases MCfg.step_cases h with ⟨_, _, hw⟩ | ⟨busy, cmd, _, _, hw⟩
  · rw [hw]; exact Nat.le_refl _
  · rw [hw]; exact (m.apply_fields busy cmd).2.2

theorem MCfg.runN_induct {beh : Beh} {P : MCfg → Prop}
    (hstep : ∀ {m m'}, P m → MCfg.step beh m = some m' → P m') : ∀ (n : Nat) {m : MCfg}, P m → P (MCfg.runN beh n m).1
  | 0, _, h => h
  | n + 1, m, h => by
    unfold MCfg.runN
    cases hm : MCfg.step beh m with
    | none => exact h
    | some m' => exact runN_induct hstep n (hstep h hm)

theorem wraps_mono_runN (beh : Beh) (n : Nat) (m : MCfg) : m.wraps ≤ (MCfg.runN beh n m).1.wraps :=
  MCfg.runN_induct (P := fun m' => m.wraps ≤ m'.wraps) (fun h st => Nat.le_trans h (wraps_mono_step beh st)) n
    (Nat.le_refl _)

theorem MCfg.runN_add (beh : Beh) (b : Nat) : ∀ (a : Nat) (m : MCfg),
    MCfg.runN beh (a + b) m = MCfg.runN beh b (MCfg.runN beh a m).1
  | 0, m => by rw [Nat.zero_add]; rfl
  | a + 1, m => by
    rw [Nat.add_right_comm]
    cases hm : MCfg.step beh m with
    | none => cases b <;> simp only [MCfg.runN, hm]
    | some m' =>
      simp only [MCfg.runN, hm]
      exact MCfg.runN_add beh b a m'

end Evp
