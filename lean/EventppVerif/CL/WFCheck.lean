import EventppVerif.CL.WF
/-
  The executable form of the structural invariant `WF` that driver mode `inv` evaluates on the RAW
  pointer dumps of the real CallbackList objects (harness/seq_cl.cpp prints them after every
  top-level command), and its soundness: a dump that passes the check satisfies the structural part
  of `WF` — so what the proofs assume about reachable Model states is observed on the
  implementation's own memory, not on an abstraction of it.
-/
namespace Evp

def walkF (f : Node → Option Nat) (h : Heap) : Nat → Option Nat → List Nat
  | 0, _ => []
  | _ + 1, none => []
  | k + 1, some n => n :: walkF f h k (f (h n))

/-- first violated clause, or `none` -/
def wfCheck (h : Heap) (head tail : Option Nat) (cur fuel : Nat) : Option String :=
  let fwd := walkF nextF h fuel head
  let bwd := walkF prevF h fuel tail
  if fwd.length ≥ fuel then some "the next-chain from head does not end (cycle)"
  else if bwd.length ≥ fuel then some "the previous-chain from tail does not end (cycle)"
  else if fwd ≠ bwd.reverse then some s!"head/next chain {fwd} is not the reverse of tail/previous chain {bwd}"
  else if !fwd.Nodup then some s!"a node occurs twice in the chain {fwd}"
  else match fwd.find? (fun n => (h n).counter == 0 || decide ((h n).counter > cur)) with
    | some n => some s!"chained node {n} has generation {(h n).counter} outside [1, currentCounter = {cur}]"
    | none => none

theorem walkF_seg (f : Node → Option Nat) (h : Heap) :
    ∀ (fuel : Nat) (o : Option Nat), (walkF f h fuel o).length < fuel → Seg f h o (walkF f h fuel o) none
  | 0, _, hl => by simp at hl
  | k + 1, none, _ => by simp [walkF, Seg]
  | k + 1, some n, hl => by
    simp only [walkF, List.length_cons] at hl ⊢
    exact ⟨rfl, walkF_seg f h k _ (by omega)⟩

/-- **soundness of the dump check**: if `wfCheck` finds nothing, the dumped object has a list `L`
    of distinct nodes that is exactly its `head`/`next` chain and, reversed, its `tail`/`previous`
    chain, every chained node carrying a generation in `[1, currentCounter]` — the clauses `nodup`,
    `fwd`, `bwd`, `cnt` (and one direction of `live`) of `WF`. -/
theorem wfCheck_sound (h : Heap) (head tail : Option Nat) (cur fuel : Nat)
    (hc : wfCheck h head tail cur fuel = none) :
    ∃ L : List Nat, L.Nodup ∧ Seg nextF h head L none ∧ Seg prevF h tail L.reverse none ∧
      ∀ n ∈ L, (h n).counter ≠ 0 ∧ (h n).counter ≤ cur := by
  have ite_none : ∀ {c : Prop} [Decidable c] {x : String} {y : Option String},
      (if c then some x else y) = none ↔ ¬c ∧ y = none := by intros; split <;> simp [*]
  simp only [wfCheck, ite_none] at hc
  obtain ⟨h1, h2, h3, h4, h5⟩ := hc
  split at h5
  · cases h5
  · next hf =>
    have e3 : walkF nextF h fuel head = (walkF prevF h fuel tail).reverse := by simpa using h3
    refine ⟨_, by simpa using h4, walkF_seg _ _ _ _ (by omega), ?_, fun n hn => ?_⟩
    · rw [e3, List.reverse_reverse]
      exact walkF_seg _ _ _ _ (by omega)
    · have := List.find?_eq_none.mp hf n hn
      simp at this
      omega

end Evp
