import EventppVerif.CL.OpLemmas
import EventppVerif.CL.MachineLemmas
/-
  The simulation between the Model machine and the Spec machine (helper level; the property
  theorems that package it are in Properties/C01.lean, C02.lean, C19.lean): the relation `Sim`, one sweep over
  the commands for both machines (`apply_sim`), one step in lock-step (`sim_lockstep`, as a `match` in `sim_step`), runs (`sim_runN`); and
  well-formedness alone (`MInv`), which holds across counter wraps, with the Spec side read off the objects
  (`absList`, `absCfg`).
-/
namespace Evp

/-- frames correspond one by one -/
inductive FrameSim (m : MCfg) (s : SCfg) : MFrame → SFrame → Prop
  | prog (p : Prog) : FrameSim m s (.prog p) (.prog p)
  | wait (k : Res → Prog) : FrameSim m s (.wait k) (.wait k)
  | iter (l n cap arg : Nat) (honour : Bool) (rest : List Entry)
      (ok : FrameOK (m.lists l) (s.lists l) m.nextId n cap rest) :
      FrameSim m s (.iter l n cap arg honour) (.iter l rest arg honour)

inductive StackSim (m : MCfg) (s : SCfg) : List MFrame → List SFrame → Prop
  | nil : StackSim m s [] []
  | cons {a b as bs} : FrameSim m s a b → StackSim m s as bs → StackSim m s (a :: as) (b :: bs)

structure Sim (m : MCfg) (s : SCfg) : Prop where
  nextId : m.nextId = s.nextId
  nlists : m.nlists = s.nlists
  trace : m.trace = s.trace
  rep : ∀ l, Rep (m.lists l) (s.lists l) m.nextId
  stack : StackSim m s m.stack s.stack

/-- every list object of the world is well formed (represents *some* list) -/
def MInv (m : MCfg) : Prop := ∀ l, ∃ SL, Rep (m.lists l) SL m.nextId

theorem StackSim.nil_inv {m s ss} (h : StackSim m s [] ss) : ss = [] := by
  cases h; rfl

theorem StackSim.cons_inv {m s a as ss} (h : StackSim m s (a :: as) ss) :
    ∃ b bs, ss = b :: bs ∧ FrameSim m s a b ∧ StackSim m s as bs := by
  cases h with
  | cons hf ht => exact ⟨_, _, rfl, hf, ht⟩

theorem FrameSim.prog_inv {m s p b} (h : FrameSim m s (.prog p) b) : b = .prog p := by
  cases h; rfl

theorem FrameSim.wait_inv {m s k b} (h : FrameSim m s (.wait k) b) : b = .wait k := by
  cases h; rfl

theorem FrameSim.wait_inv' {m s k a} (h : FrameSim m s a (.wait k)) : a = .wait k := by
  cases h; rfl

theorem FrameSim.iter_inv {m s l n cap arg honour b} (h : FrameSim m s (.iter l n cap arg honour) b) :
    ∃ rest, b = .iter l rest arg honour ∧ FrameOK (m.lists l) (s.lists l) m.nextId n cap rest := by
  cases h with
  | iter _ _ _ _ _ rest ok => exact ⟨rest, rfl, ok⟩

theorem StackSim.length_eq {m s ms ss} (h : StackSim m s ms ss) : ms.length = ss.length := by
  induction h with
  | nil => rfl
  | cons _ _ ih => simp [ih]

theorem StackSim.isEmpty_eq {m s ms ss} (h : StackSim m s ms ss) : ms.isEmpty = ss.isEmpty := by
  cases h <;> rfl

/-- the stack relation reads the configurations only through the list objects that have a
    running traversal, and the id bound -/
theorem StackSim.transport {m s m' s'} {ms ss} (h : StackSim m s ms ss)
    (H : ∀ l n cap rest, busyOn MFrame.isIterOn ms l = true →
      FrameOK (m.lists l) (s.lists l) m.nextId n cap rest →
      FrameOK (m'.lists l) (s'.lists l) m'.nextId n cap rest) :
    StackSim m' s' ms ss := by
  induction h with
  | nil => exact .nil
  | cons hf _ ih =>
    refine .cons ?_ (ih ?_)
    · cases hf with
      | prog p => exact .prog p
      | wait k => exact .wait k
      | iter l n cap arg honour rest ok =>
        exact .iter _ _ _ _ _ _ (H l n cap rest (by simp [busyOn, MFrame.isIterOn]) ok)
    · exact fun l n cap rest hb => H l n cap rest (busyOn_cons hb _)

theorem StackSim.congr {m s m' s'} {ms ss} (h : StackSim m s ms ss)
    (hl : m'.lists = m.lists) (hsl : s'.lists = s.lists) (hn : m'.nextId = m.nextId) :
    StackSim m' s' ms ss :=
  h.transport (fun l n cap rest _ ok => by rw [hl, hsl, hn]; exact ok)

theorem StackSim.busyOn_eq {m s ms ss} (h : StackSim m s ms ss) (l : Nat) :
    busyOn MFrame.isIterOn ms l = busyOn SFrame.isIterOn ss l := by
  induction h with
  | nil => rfl
  | cons hf _ ih =>
    simp only [busyOn, List.any_cons] at ih ⊢
    rw [ih]
    cases hf <;> simp [MFrame.isIterOn, SFrame.isIterOn]

theorem foreign_eq {m : MCfg} {s : SCfg} (nl : m.nlists = s.nlists)
    (rep : ∀ l, Rep (m.lists l) (s.lists l) m.nextId) (l : Nat) (h : Hd) :
    m.foreign l h = s.foreign l h := by
  unfold MCfg.foreign SCfg.foreign
  rw [nl]
  congr 1
  funext l'
  have := (rep l').present_eq h
  rw [← this]
  generalize ((m.lists l').heap h).counter = c
  cases c <;> simp

/-- the simulation relation with the stacks as parameters -/
structure SimOn (m : MCfg) (s : SCfg) (ms : List MFrame) (ss : List SFrame) : Prop where
  nextId : m.nextId = s.nextId
  nlists : m.nlists = s.nlists
  trace : m.trace = s.trace
  rep : ∀ l, Rep (m.lists l) (s.lists l) m.nextId
  stack : StackSim m s ms ss

theorem Sim.on {m s} (h : Sim m s) : SimOn m s m.stack s.stack := ⟨h.1, h.2, h.3, h.4, h.5⟩

theorem SimOn.sub {m s ms ss ms' ss'} (h : SimOn m s ms ss) (h' : StackSim m s ms' ss') :
    SimOn m s ms' ss' := ⟨h.1, h.2, h.3, h.4, h'⟩

theorem SimOn.toSim {m s ms ss} (h : SimOn m s ms ss) {tr str : List Ev} {st sst} (htr : tr = str)
    (hst : StackSim m s st sst) : Sim { m with trace := tr, stack := st } { s with trace := str, stack := sst } :=
  ⟨h.nextId, h.nlists, htr, h.rep, hst.congr rfl rfl rfl⟩

theorem Sim.top_prog {m s p mrest} (h : Sim m s) (hm : m.stack = .prog p :: mrest) :
    ∃ srest, s.stack = .prog p :: srest := by
  have hst := h.stack
  rw [hm] at hst
  obtain ⟨b, bs, hs, hf, _⟩ := hst.cons_inv
  exact ⟨bs, hf.prog_inv ▸ hs⟩

theorem Sim.restack {m : MCfg} {s : SCfg} (h : Sim m s) (p : Prog) :
    Sim { m with stack := [.prog p] } { s with stack := [.prog p] } :=
  ⟨h.nextId, h.nlists, h.trace, h.rep, .cons (.prog p) .nil⟩

theorem sim_deliver {m s below sbelow} (h : SimOn m s below sbelow) (r : Res) :
    Sim (m.deliver r below) (s.deliver r sbelow) := by
  have hst := h.stack
  cases hst with
  | nil => exact h.toSim h.trace .nil
  | cons hf ht =>
    cases hf with
    | prog p => exact h.toSim h.trace (.cons (.prog p) ht)
    | wait k =>
      exact h.toSim (congrArg _ h.trace) (.cons (.prog _) ht)
    | iter l n cap arg honour rest ok =>
      exact h.toSim h.trace (.cons (.iter _ _ _ _ _ _ ok) ht)

theorem sim_seekCall (beh : Beh) {m s below sbelow} (h : SimOn m s below sbelow)
    (l : Nat) (start : Option Nat) (cap arg : Nat) (honour : Bool) (snap : List Entry)
    (H : match snap.dropWhile (fun e => !(s.lists l).present e.id) with
      | [] => seek (m.lists l).heap cap (m.nextId + 1) start = none
      | e :: es => seek (m.lists l).heap cap (m.nextId + 1) start = some e.id ∧
          ((m.lists l).heap e.id).cb = e.cb ∧
          FrameOK (m.lists l) (s.lists l) m.nextId e.id cap es) :
    Sim (MCfg.seekCall beh m l start cap arg honour below)
      (SCfg.seekCall beh s l snap arg honour sbelow) := by
  unfold MCfg.seekCall SCfg.seekCall MCfg.fuel
  cases hd : snap.dropWhile (fun e => !(s.lists l).present e.id) with
  | nil =>
    rw [hd] at H
    simp only [H]
    exact sim_deliver h _
  | cons e es =>
    rw [hd] at H
    obtain ⟨h1, h2, h3⟩ := H
    simp only [h1, h2]
    rw [h.trace]
    exact h.toSim rfl (.cons (.prog _) (.cons (.iter _ _ _ _ _ _ h3) h.stack))

/-- `MCfg.apply` adds `if willWrap then 1 else 0` to the ghost counter `wraps`: if `wraps` did not move, the operation
    did not wrap -/
theorem nowrap_of_wraps {w : Nat} {b : Bool} (h : w + (if b = true then 1 else 0) = w) : b = false := by
  cases b <;> simp_all

/-- `OpStable false F`: `F l SL b` survives every operation that can act on a list while it is being traversed, whether
    or not it wraps the generation counter.  `OpStable true F` (`nw` = "no wrap") is the weaker notion: `append` /
    `prepend` / `insert` need to keep `F` only when they do not wrap (`added` is then given `l.willWrap = false`). -/
structure OpStable (nw : Bool) (F : CL → SList → Nat → Prop) : Prop where
  mono : ∀ {l SL b b'}, F l SL b → b ≤ b' → F l SL b'
  added : ∀ {l SL b l' SL'}, Rep l SL b → Added l SL b l' SL' → (nw = true → l.willWrap = false) →
    F l SL b → F l' SL' (b + 1)
  remove : ∀ {l SL b}, Rep l SL b → F l SL b → ∀ h, F (l.remove h).1 (SL.remove h).1 b
  cur : ∀ {l SL b}, F l SL b → ∀ c, l.cur ≤ c → F { l with cur := c } SL b

theorem frameOK_stable (n cap : Nat) (rest : List Entry) : OpStable true (fun l SL b => FrameOK l SL b n cap rest) where
  mono := FrameOK.mono
  added := fun r A nw f => frame_added r A (nw rfl) f
  remove := fun r f h => frame_remove r f h
  cur := FrameOK.cur_mono

/-- Model and Spec execute a command (not a traversal) on related worlds: same result, related worlds, and every
    `OpStable` property of a busy list is kept (a list that is not busy may be overwritten as a whole) -/
theorem apply_sim {m : MCfg} {s : SCfg} (hn : m.nextId = s.nextId) (nl : m.nlists = s.nlists)
    (hr : ∀ l, Rep (m.lists l) (s.lists l) m.nextId) (busy : Nat → Bool) (cmd : Cmd) :
    (m.apply busy cmd).2 = (s.apply busy cmd).2 ∧ (m.apply busy cmd).1.nextId = (s.apply busy cmd).1.nextId ∧
    (∀ l, Rep ((m.apply busy cmd).1.lists l) ((s.apply busy cmd).1.lists l) (m.apply busy cmd).1.nextId) ∧
    ∀ {nw F}, OpStable nw F → (nw = true → (m.apply busy cmd).1.wraps = m.wraps) → ∀ {l}, busy l = true →
      F (m.lists l) (s.lists l) m.nextId →
      F ((m.apply busy cmd).1.lists l) ((s.apply busy cmd).1.lists l) (m.apply busy cmd).1.nextId := by
  -- List `l'` becomes `x`, with content `y`.  `W nw` stands for the hypothesis "`nw = true →` this command left `wraps`
  -- alone" in whatever form `simp only [MCfg.apply]` leaves it in the goal of each case; it is a parameter so that `upd1`
  -- can be applied twice (`moveAssign`, `swap`, which never wrap: `W := fun _ => True`).
  have upd1 : ∀ {ls : Store CL} {Ls : Store SList} {b : Nat} (l' : Nat) {x : CL} {y : SList} {b' : Nat} {W : Bool → Prop},
      b ≤ b' → Rep x y b' → (∀ l, Rep (ls l) (Ls l) b) →
      (∀ {nw F}, OpStable nw F → W nw → busy l' = true → F (ls l') (Ls l') b → F x y b') →
      (∀ l, Rep (upd ls l' x l) (upd Ls l' y l) b') ∧
        ∀ {nw F}, OpStable nw F → W nw → ∀ {l}, busy l = true → F (ls l) (Ls l) b → F (upd ls l' x l) (upd Ls l' y l) b' := by
    intro ls Ls b l' x y b' W hb hx hls hf
    refine ⟨fun l => ?_, fun {nw F} hF hw {l} hbl f => ?_⟩ <;> simp only [upd_get] <;> split
    · exact hx
    · exact (hls l).mono hb
    · next e => subst e; exact hf hF hw hbl f
    · exact hF.mono f hb
  have same : ∀ {W : Bool → Prop}, (∀ l, Rep (m.lists l) (s.lists l) m.nextId) ∧
      ∀ {nw : Bool} {F}, OpStable nw F → W nw → ∀ {l}, busy l = true →
        F (m.lists l) (s.lists l) m.nextId → F (m.lists l) (s.lists l) m.nextId :=
    ⟨hr, fun {_ _} _ _ {_} _ f => f⟩
  cases cmd <;> simp only [MCfg.apply, SCfg.apply, MCfg.fuel, ← hn, ← foreign_eq nl hr]
  case append l cb =>
    exact ⟨trivial, trivial, upd1 l (Nat.le_succ _) (rep_append (hr l) cb) hr fun hF hw _ =>
      hF.added (hr l) (added_append (hr l) cb) fun e => nowrap_of_wraps (hw e)⟩
  case prepend l cb =>
    exact ⟨trivial, trivial, upd1 l (Nat.le_succ _) (rep_prepend (hr l) cb) hr fun hF hw _ =>
      hF.added (hr l) (added_prepend (hr l) cb) fun e => nowrap_of_wraps (hw e)⟩
  case insert l cb b =>
    split
    · exact ⟨rfl, hn, same⟩
    · exact ⟨rfl, rfl, upd1 l (Nat.le_succ _) (rep_insert (hr l) cb b) hr fun hF hw _ =>
        hF.added (hr l) (added_insert (hr l) cb b) fun e => nowrap_of_wraps (hw e)⟩
  case remove l hd =>
    split
    · exact ⟨rfl, hn, same⟩
    · exact ⟨congrArg Res.bool (rep_remove (hr l) hd).2, rfl,
        upd1 l (Nat.le_refl _) (rep_remove (hr l) hd).1 hr fun hF _ _ f => hF.remove (hr l) f hd⟩
  case setCounter l k =>
    have := (hr l).wf.cur_lt
    refine ⟨trivial, trivial, fun l' => ?_, fun {_ _} hF _ {l'} _ f => ?_⟩ <;> simp only [upd_get] <;> split
    · next e => subst e; exact rep_setCounter (hr l') k
    · exact hr l'
    · next e => subst e; exact hF.cur f _ (by split <;> omega)
    · exact f
  case owns l hd =>
    split
    · exact ⟨rfl, hn, same⟩
    · exact ⟨congrArg Res.bool (rep_owns (hr l) hd), hn, same⟩
  case empty l => exact ⟨congrArg Res.bool (rep_isEmpty (hr l)), trivial, same⟩
  case invoke => exact ⟨trivial, trivial, same⟩
  case enum => exact ⟨trivial, trivial, same⟩
  case copyAssign dst src =>
    rw [(rep_clone (hr src)).2]
    split
    · exact ⟨rfl, hn, same⟩
    · next hc =>
      exact ⟨rfl, rfl, upd1 dst (Nat.le_add_right _ _) (rep_clone (hr src)).1 hr
        fun _ _ hb => absurd (.inr (.inl hb)) hc⟩
  case moveAssign dst src =>
    split
    · exact ⟨rfl, hn, same⟩
    · next hc =>
      obtain ⟨h1, H1⟩ := upd1 (W := fun _ => True) dst (Nat.le_refl _) (hr src) hr fun _ _ hb => absurd (.inr (.inl hb)) hc
      obtain ⟨h2, H2⟩ := upd1 (W := fun _ => True) src (Nat.le_refl _) (rep_moved_from (hr src)) h1
        fun _ _ hb => absurd (.inr (.inr hb)) hc
      exact ⟨rfl, rfl, h2, fun hF _ _ hb f => H2 hF trivial hb (H1 hF trivial hb f)⟩
  case swap a b =>
    split
    · exact ⟨rfl, hn, same⟩
    · next hc =>
      obtain ⟨h1, H1⟩ := upd1 (W := fun _ => True) a (Nat.le_refl _) (hr b) hr fun _ _ hb => absurd (.inl hb) hc
      obtain ⟨h2, H2⟩ := upd1 (W := fun _ => True) b (Nat.le_refl _) (hr a) h1 fun _ _ hb => absurd (.inr hb) hc
      exact ⟨rfl, rfl, h2, fun hF _ _ hb f => H2 hF trivial hb (H1 hF trivial hb f)⟩


/-- every command that is not a traversal gives the same result on both sides and, unless it wraps a generation
    counter, related worlds -/
theorem sim_apply {m s ms ss} (h : SimOn m s ms ss) (cmd : Cmd) :
    (m.apply (busyOn MFrame.isIterOn ms) cmd).2 = (s.apply (busyOn SFrame.isIterOn ss) cmd).2 ∧
    ((m.apply (busyOn MFrame.isIterOn ms) cmd).1.wraps = m.wraps →
      SimOn (m.apply (busyOn MFrame.isIterOn ms) cmd).1 (s.apply (busyOn SFrame.isIterOn ss) cmd).1 ms ss) := by
  rw [← funext h.stack.busyOn_eq]
  obtain ⟨h1, h2, h3, H⟩ := apply_sim h.nextId h.nlists h.rep (busyOn MFrame.isIterOn ms) cmd
  have hm := m.apply_fields (busyOn MFrame.isIterOn ms) cmd
  have hs := s.apply_fields (busyOn MFrame.isIterOn ms) cmd
  exact ⟨h1, fun hw => ⟨h2, by rw [hm.2.1, hs.2.1]; exact h.nlists, by rw [hm.1, hs.1]; exact h.trace, h3,
    h.stack.transport fun l n cap rest hb => H (frameOK_stable n cap rest) (fun _ => hw) hb⟩⟩

theorem sim_applyStep {m s} (h : Sim m s) {cmd k rest srest}
    (hst : StackSim m s rest srest) (hw : (m.applyStep cmd k rest).wraps = m.wraps) :
    Sim (m.applyStep cmd k rest) (s.applyStep cmd k srest) := by
  obtain ⟨hr, hs⟩ := sim_apply (h.on.sub hst) cmd
  have hs := hs hw
  unfold MCfg.applyStep SCfg.applyStep
  rw [hr, hs.trace]
  exact hs.toSim rfl (.cons (.prog _) hs.stack)

/-- One step in lock-step: the Spec halts iff the Model halts; if the step did not wrap a generation counter the results
    are again related. -/
theorem sim_lockstep (beh : Beh) {m : MCfg} {s : SCfg} (h : Sim m s) :
    (MCfg.step beh m = none ∧ SCfg.step beh s = none) ∨
    ∃ m' s', MCfg.step beh m = some m' ∧ SCfg.step beh s = some s' ∧ (m'.wraps = m.wraps → Sim m' s') := by
  have hst := h.stack
  generalize hm : m.stack = ms at hst
  generalize hs : s.stack = ss at hst
  cases hst with
  | nil => exact .inl ⟨MCfg.step_nil hm, SCfg.step_nil hs⟩
  | cons hf ht =>
    cases hf with
    | wait k => exact .inl ⟨MCfg.step_wait hm, SCfg.step_wait hs⟩
    | iter l n cap arg ho r ok => exact .inl ⟨MCfg.step_iter hm, SCfg.step_iter hs⟩
    | prog p =>
      refine .inr ?_
      cases p with
      | ret v =>
        cases ht with
        | nil => exact ⟨_, _, MCfg.step_ret_nil hm, SCfg.step_ret_nil hs, fun _ => h.on.toSim h.trace .nil⟩
        | cons hg hbelow =>
          cases hg with
          | prog q =>
            exact ⟨_, _, MCfg.step_ret_prog hm, SCfg.step_ret_prog hs, fun _ =>
              h.on.toSim h.trace (.cons (.prog q) hbelow)⟩
          | wait k =>
            exact ⟨_, _, MCfg.step_ret_wait hm, SCfg.step_ret_wait hs, fun _ =>
              h.on.toSim h.trace (.cons (.wait k) hbelow)⟩
          | iter l n cap arg honour rest ok =>
            rw [MCfg.step_ret_iter hm, SCfg.step_ret_iter hs]
            cases honour && !v with
            | true => exact ⟨_, _, rfl, rfl, fun _ => sim_deliver (h.on.sub hbelow) _⟩
            | false =>
              exact ⟨_, _, rfl, rfl, fun _ =>
                sim_seekCall beh (h.on.sub hbelow) l _ cap arg honour rest (frame_step (h.rep l) ok)⟩
      | op cmd k =>
        cases hc : cmd.traverses with
        | false => exact ⟨_, _, MCfg.step_op hm hc, SCfg.step_op hs hc, sim_applyStep h ht⟩
        | true =>
          obtain ⟨l, arg, ho, rfl⟩ := Cmd.of_traverses hc
          exact ⟨_, _, MCfg.step_start hm, SCfg.step_start hs, fun _ =>
            sim_seekCall beh (h.on.sub (.cons (.wait k) ht)) l _ _ arg ho (s.lists l) (frame_start (h.rep l))⟩

def StepGoal (beh : Beh) (m : MCfg) (s : SCfg) : Prop :=
  match MCfg.step beh m, SCfg.step beh s with
  | none, none => True
  | some m', some s' => m'.wraps = m.wraps → Sim m' s'
  | _, _ => False

theorem sim_step (beh : Beh) {m : MCfg} {s : SCfg} (h : Sim m s) :
    match MCfg.step beh m, SCfg.step beh s with
    | none, none => True
    | some m', some s' => m'.wraps = m.wraps → Sim m' s'
    | _, _ => False := by
  rcases sim_lockstep beh h with ⟨hm, hs⟩ | ⟨m', s', hm, hs, hsim⟩ <;> rw [hm, hs]
  · trivial
  · exact hsim

theorem sim_runN (beh : Beh) (n : Nat) {m : MCfg} {s : SCfg} (h : Sim m s)
    (nowrap : (MCfg.runN beh n m).1.wraps = m.wraps) :
    Sim (MCfg.runN beh n m).1 (SCfg.runN beh n s).1 ∧ (MCfg.runN beh n m).2 = (SCfg.runN beh n s).2 := by
  induction n generalizing m s with
  | zero => exact ⟨h, h.stack.isEmpty_eq⟩
  | succ n ih =>
    rcases sim_lockstep beh h with ⟨hm, hs⟩ | ⟨m', s', hm, hs, hsim⟩ <;>
      simp only [MCfg.runN, SCfg.runN, hm, hs] at nowrap ⊢
    · exact ⟨h, h.stack.isEmpty_eq⟩
    · have w1 := wraps_mono_step beh hm
      have w2 := wraps_mono_runN beh n m'
      exact ih (hsim (by omega)) (by omega)

/-! ### well-formedness alone (also across a wrap) -/

theorem absList_head_none {l : CL} (h : l.head = none) (fuel : Nat) : absList l fuel = [] := by
  unfold absList; rw [h]; cases fuel <;> rfl

theorem absList_default (fuel : Nat) : absList ({} : CL) fuel = [] := absList_head_none rfl fuel

/-- Read every list object through `head`/`next`; start program `p` on the result. -/
def absCfg (m : MCfg) (p : Prog) : SCfg :=
  { lists := ⟨m.lists.arr.map (fun cl => absList cl (m.nextId + 1))⟩
    nextId := m.nextId, trace := m.trace, stack := [.prog p], nlists := m.nlists }

theorem absCfg_lists (m : MCfg) (p : Prog) (l : Nat) :
    (absCfg m p).lists l = absList (m.lists l) (m.nextId + 1) :=
  Store.map_get (fun cl => absList cl (m.nextId + 1)) (absList_default _) m.lists l

theorem MInv.rep {m : MCfg} (h : MInv m) (l : Nat) :
    Rep (m.lists l) (absList (m.lists l) (m.nextId + 1)) m.nextId := by
  obtain ⟨SL, r⟩ := h l
  rw [r.abs]
  exact r

theorem MInv.abs_rep {m : MCfg} (h : MInv m) (p : Prog) (l : Nat) :
    Rep (m.lists l) ((absCfg m p).lists l) m.nextId := by
  rw [absCfg_lists]; exact h.rep l

/-- `apply_sim` on a well-formed world and the contents read off its objects -/
theorem MCfg.apply_stable_abs {m : MCfg} (h : MInv m) (busy : Nat → Bool) (cmd : Cmd) :
    MInv (m.apply busy cmd).1 ∧ ∀ {F : CL → SList → Nat → Prop}, OpStable false F → ∀ {l : Nat}, busy l = true →
    F (m.lists l) (absList (m.lists l) (m.nextId + 1)) m.nextId →
    F ((m.apply busy cmd).1.lists l)
      (absList ((m.apply busy cmd).1.lists l) ((m.apply busy cmd).1.nextId + 1)) (m.apply busy cmd).1.nextId := by
  obtain ⟨-, -, hr', H⟩ := apply_sim (s := absCfg m (.ret true)) rfl rfl (h.abs_rep _) busy cmd
  refine ⟨fun l => ⟨_, hr' l⟩, fun {F} hF {l} hb f => ?_⟩
  rw [(hr' l).abs]
  exact H hF nofun hb (absCfg_lists m _ l ▸ f)


theorem minv_apply {m : MCfg} (h : MInv m) (busy : Nat → Bool) (cmd : Cmd) : MInv (m.apply busy cmd).1 :=
  (MCfg.apply_stable_abs h busy cmd).1

theorem minv_step (beh : Beh) {m m' : MCfg} (h : MInv m) (st : MCfg.step beh m = some m') : MInv m' := by
  rcases MCfg.step_cases st with ⟨hl, hn, _⟩ | ⟨busy, cmd, hl, hn, _⟩
  · intro l; rw [hl, hn]; exact h l
  · intro l; rw [hl, hn]; exact minv_apply h busy cmd l

theorem minv_runN (beh : Beh) (n : Nat) {m : MCfg} (h : MInv m) : MInv (MCfg.runN beh n m).1 :=
  MCfg.runN_induct (minv_step beh) n h

/-- no null dereference is ever recorded -/
theorem minv_no_ub {m : MCfg} (h : MInv m) (l : Nat) : (m.lists l).ub = false := by
  obtain ⟨SL, r⟩ := h l
  exact r.wf.ub

end Evp
