import EventppVerif.CL.Spec
/-
  What the operations of the Spec (CL/Spec.lean) do to a list, read through `ids` and `present`: `append`, `prepend`,
  `insertBefore`, `insert`, `erase`, `remove`, `cloneWith`.  Pure list facts; Properties/C01.lean and C10.lean state
  them as the operation laws of the callback list.
-/
namespace Evp
namespace SList

@[simp] theorem ids_nil : ids [] = [] := rfl
@[simp] theorem ids_cons (e : Entry) (L : SList) : ids (e :: L) = e.id :: ids L := rfl
@[simp] theorem ids_append' (L L' : SList) : ids (L ++ L') = ids L ++ ids L' := by simp [ids]
theorem ids_append (L : SList) (id cb) : (L.append id cb).ids = L.ids ++ [id] := by simp [append, ids]
theorem ids_prepend (L : SList) (id cb) : (L.prepend id cb).ids = id :: L.ids := by simp [prepend, ids]

theorem present_iff {L : SList} {h : Hd} : L.present h = true ↔ h ∈ L.ids := by
  simp [present, ids]

theorem present_false_iff {L : SList} {h : Hd} : L.present h = false ↔ h ∉ L.ids := by
  rw [← present_iff]; simp

theorem mem_ids_of_mem {L : SList} {e : Entry} (h : e ∈ L) : e.id ∈ L.ids := by
  simp [ids]; exact ⟨e, h, rfl⟩

theorem ids_erase (L : SList) (h : Hd) : (L.erase h).ids = L.ids.filter (fun n => n != h) := by
  simp [erase, ids, List.filter_map]
  rfl

theorem mem_erase {L : SList} {h : Hd} {e : Entry} : e ∈ L.erase h ↔ e ∈ L ∧ e.id ≠ h := by
  simp [erase]

theorem present_erase (L : SList) (h x : Hd) : (L.erase h).present x = (L.present x && x != h) := by
  rw [Bool.eq_iff_iff]
  simp [present_iff, ids_erase]

theorem mem_insertBefore {L : SList} {e x : Entry} {b : Hd} : x ∈ L.insertBefore e b ↔ x = e ∨ x ∈ L := by
  induction L with
  | nil => simp [insertBefore]
  | cons y r ih =>
    simp only [insertBefore]
    split
    · simp
    · simp [ih]; grind

theorem ids_insertBefore : ∀ {L : SList} {e : Entry} {b : Hd} {P Q : List Nat},
    L.ids = P ++ b :: Q → b ∉ P → (L.insertBefore e b).ids = P ++ e.id :: b :: Q
  | [], e, b, P, Q, h, _ => by simp at h
  | x :: r, e, b, [], Q, h, _ => by
    simp at h
    simp [insertBefore, h.1, h.2]
  | x :: r, e, b, p :: P, Q, h, hn => by
    simp at h
    have hx : x.id ≠ b := by
      rw [h.1]; intro hh; exact hn (by simp [hh])
    simp [insertBefore, hx]
    exact ⟨h.1, ids_insertBefore h.2 (fun hh => hn (by simp [hh]))⟩

theorem present_append (L : SList) (id cb) (x : Hd) : (L.append id cb).present x = (L.present x || x == id) := by
  rw [Bool.eq_iff_iff]
  simp [present_iff, ids_append]

theorem present_prepend (L : SList) (id cb) (x : Hd) : (L.prepend id cb).present x = (L.present x || x == id) := by
  rw [Bool.eq_iff_iff]
  simp [present_iff, ids_prepend]
  exact Or.comm

theorem present_of_mem {L : SList} {e : Entry} (h : e ∈ L) : L.present e.id = true :=
  present_iff.mpr (mem_ids_of_mem h)

theorem exists_of_present {L : SList} {h : Hd} (hp : L.present h = true) : ∃ e ∈ L, e.id = h := by
  simpa [ids] using present_iff.mp hp

theorem insertBefore_split (e x : Entry) (Q : SList) :
    ∀ (P : SList), x.id ∉ P.ids → insertBefore (P ++ x :: Q) e x.id = P ++ e :: x :: Q
  | [], _ => by simp [insertBefore]
  | p :: P, hn => by
    have hp : p.id ≠ x.id := fun h => hn (by simp [h])
    have hP : x.id ∉ ids P := fun h => hn (by simp [h])
    simp [insertBefore, hp, insertBefore_split e x Q P hP]

theorem mem_insert {L : SList} {id cb b} {x : Entry} : x ∈ L.insert id cb b ↔ x = ⟨id, cb⟩ ∨ x ∈ L := by
  unfold insert
  split
  · exact mem_insertBefore
  · simp [append, or_comm]

theorem ids_insertBefore_perm (L : SList) (e : Entry) (b : Hd) :
    (L.insertBefore e b).ids.Perm (e.id :: L.ids) := by
  induction L with
  | nil => exact .refl _
  | cons x r ih =>
    unfold insertBefore
    split
    · exact .refl _
    · exact (ih.cons _).trans (.swap _ _ _)

theorem ids_insert_perm (L : SList) (id cb b) : (L.insert id cb b).ids.Perm (id :: L.ids) := by
  unfold insert
  split
  · exact ids_insertBefore_perm L ⟨id, cb⟩ b
  · rw [ids_append]; exact List.perm_append_singleton _ _

theorem present_insert (L : SList) (id cb before) (x : Hd) :
    (L.insert id cb before).present x = (L.present x || x == id) := by
  rw [Bool.eq_iff_iff]
  simp [present_iff, (ids_insert_perm L id cb before).mem_iff, or_comm]

theorem ids_append_perm (L : SList) (id cb) : (L.append id cb).ids.Perm (id :: L.ids) := by
  rw [ids_append]; exact List.perm_append_singleton _ _

theorem ids_prepend_perm (L : SList) (id cb) : (L.prepend id cb).ids.Perm (id :: L.ids) := by
  rw [ids_prepend]

theorem remove_fst (L : SList) (h : Hd) : (L.remove h).1 = L.erase h := by
  unfold remove
  split
  · rfl
  · rename_i hp
    have hp' : h ∉ L.ids := present_false_iff.mp (by simpa using hp)
    symm
    show L.filter _ = L
    rw [List.filter_eq_self]
    intro e he
    simp only [bne_iff_ne, ne_eq]
    exact fun heq => hp' (heq ▸ mem_ids_of_mem he)

theorem remove_snd (L : SList) (h : Hd) : (L.remove h).2 = L.present h := by
  unfold remove
  split
  · rename_i hp; simp [hp]
  · rename_i hp; simp at hp; simp [hp]

theorem ids_remove (L : SList) (h : Hd) (hnd : L.ids.Nodup) : (L.remove h).1.ids = L.ids.erase h := by
  rw [remove_fst, hnd.erase_eq_filter, ids_erase]

theorem present_remove (L : SList) (h x : Hd) : (L.remove h).1.present x = (L.present x && x != h) := by
  rw [remove_fst, present_erase]

theorem ids_foldl_remove (hs : List Hd) (L : SList) :
    (hs.foldl (fun L h => (L.remove h).1) L).ids = L.ids.filter (fun x => !hs.contains x) := by
  induction hs generalizing L with
  | nil => exact (List.filter_eq_self.mpr fun _ _ => rfl).symm
  | cons h r ih =>
    rw [List.foldl_cons, ih, remove_fst, ids_erase, List.filter_filter]
    congr 1
    funext x
    by_cases he : x = h <;> simp [he]

theorem remove_absent (L : SList) (h : Hd) (hp : L.present h = false) : L.remove h = (L, false) := by
  simp [remove, hp]

theorem cloneWith_cbs : ∀ (L : SList) (id : Nat), (L.cloneWith id).map (·.cb) = L.map (·.cb)
  | [], _ => rfl
  | e :: r, id => by simp [cloneWith, cloneWith_cbs r (id + 1)]

theorem cloneWith_length : ∀ (L : SList) (id : Nat), (L.cloneWith id).length = L.length
  | [], _ => rfl
  | e :: r, id => by simp [cloneWith, cloneWith_length r (id + 1)]

theorem cloneWith_ids : ∀ (L : SList) (id : Nat), (L.cloneWith id).ids = List.range' id L.length
  | [], _ => rfl
  | e :: r, id => by
    simp only [cloneWith, ids_cons, List.length_cons, List.range'_succ]
    rw [cloneWith_ids r (id + 1)]

theorem cloneWith_fresh {L : SList} {id h : Nat} (hm : h ∈ (L.cloneWith id).ids) :
    id ≤ h ∧ h < id + L.length := by
  rw [cloneWith_ids, List.mem_range'_1] at hm
  exact hm

end SList
end Evp
