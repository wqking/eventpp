import EventppVerif.CL.WF
/-
  Effect of the structural operations on the heap, field by field, and preservation of `WF`.
-/
namespace Evp

/-- `h1`, `h2`: the new node `id` is neither `n` nor `n`'s predecessor, i.e. the write that fills `id` is not one of the
    two writes that re-wire the neighbours; `WF.linkBefore_linked` gets both from `id` being unallocated. -/
theorem linkBefore_next (l : CL) (id cb c n a : Nat) (h1 : id ≠ n) (h2 : (l.heap n).prev ≠ some id) :
    ((l.linkBefore id cb c n).heap a).next =
      if (l.heap n).prev = some a then some id else if a = id then some n else (l.heap a).next := by
  unfold CL.linkBefore
  cases hp : (l.heap n).prev <;> simp only [upd_get] <;> grind

theorem linkBefore_prev (l : CL) (id cb c n a : Nat) :
    ((l.linkBefore id cb c n).heap a).prev =
      if a = n then some id else if a = id then (l.heap n).prev else (l.heap a).prev := by
  unfold CL.linkBefore
  cases hp : (l.heap n).prev <;> simp only [upd_get] <;> grind

theorem linkBefore_counter (l : CL) (id cb c n a : Nat) :
    ((l.linkBefore id cb c n).heap a).counter = if a = id then c else (l.heap a).counter := by
  unfold CL.linkBefore
  cases hp : (l.heap n).prev <;> simp only [upd_get] <;> grind

theorem linkBefore_cb (l : CL) (id cb c n a : Nat) :
    ((l.linkBefore id cb c n).heap a).cb = if a = id then cb else (l.heap a).cb := by
  unfold CL.linkBefore
  cases hp : (l.heap n).prev <;> simp only [upd_get] <;> grind

theorem freeNode_next (l : CL) (n a : Nat) :
    ((l.freeNode n).heap a).next = if (l.heap n).prev = some a then (l.heap n).next else (l.heap a).next := by
  unfold CL.freeNode
  cases hp : (l.heap n).prev <;> cases hq : (l.heap n).next <;> simp only [hp, hq, upd_get] <;> grind

theorem freeNode_prev (l : CL) (n a : Nat) :
    ((l.freeNode n).heap a).prev = if (l.heap n).next = some a then (l.heap n).prev else (l.heap a).prev := by
  unfold CL.freeNode
  cases hp : (l.heap n).prev <;> cases hq : (l.heap n).next <;> simp only [hp, hq, upd_get] <;> grind

theorem freeNode_counter (l : CL) (n a : Nat) :
    ((l.freeNode n).heap a).counter = if a = n then 0 else (l.heap a).counter := by
  unfold CL.freeNode
  cases hp : (l.heap n).prev <;> cases hq : (l.heap n).next <;> simp only [hp, hq, upd_get] <;> grind

theorem freeNode_cb (l : CL) (n a : Nat) :
    ((l.freeNode n).heap a).cb = (l.heap a).cb := by
  unfold CL.freeNode
  cases hp : (l.heap n).prev <;> cases hq : (l.heap n).next <;> simp only [hp, hq, upd_get] <;> grind

@[simp] theorem linkBefore_head (l : CL) (id cb c n : Nat) :
    (l.linkBefore id cb c n).head = if l.head = some n then some id else l.head := by rw [CL.linkBefore]
@[simp] theorem linkBefore_tail (l : CL) (id cb c n : Nat) : (l.linkBefore id cb c n).tail = l.tail := by
  rw [CL.linkBefore]
@[simp] theorem linkBefore_cur (l : CL) (id cb c n : Nat) : (l.linkBefore id cb c n).cur = l.cur := by
  rw [CL.linkBefore]
@[simp] theorem linkBefore_M (l : CL) (id cb c n : Nat) : (l.linkBefore id cb c n).M = l.M := by
  rw [CL.linkBefore]
@[simp] theorem linkBefore_ub (l : CL) (id cb c n : Nat) : (l.linkBefore id cb c n).ub = l.ub := by
  rw [CL.linkBefore]

@[simp] theorem freeNode_head (l : CL) (n : Nat) :
    (l.freeNode n).head = if l.head = some n then (l.heap n).next else l.head := by rw [CL.freeNode]
@[simp] theorem freeNode_tail (l : CL) (n : Nat) :
    (l.freeNode n).tail = if l.tail = some n then (l.heap n).prev else l.tail := by rw [CL.freeNode]
@[simp] theorem freeNode_cur (l : CL) (n : Nat) : (l.freeNode n).cur = l.cur := by rw [CL.freeNode]
@[simp] theorem freeNode_M (l : CL) (n : Nat) : (l.freeNode n).M = l.M := by rw [CL.freeNode]
@[simp] theorem freeNode_ub (l : CL) (n : Nat) : (l.freeNode n).ub = l.ub := by rw [CL.freeNode]

theorem linkBack_nil (l : CL) (id cb c : Nat) (hh : l.head = none) :
    l.linkBack id cb c = { l with heap := upd l.heap id ⟨none, none, cb, c⟩, head := some id, tail := some id } := by
  unfold CL.linkBack; simp [hh]

theorem linkBack_cons (l : CL) (id cb c : Nat) {hd t} (hh : l.head = some hd) (ht : l.tail = some t) :
    l.linkBack id cb c = { l with
      heap := upd (upd l.heap id ⟨some t, none, cb, c⟩) t { l.heap t with next := some id }
      tail := some id } := by
  unfold CL.linkBack; simp [hh, ht]

theorem linkFront_nil (l : CL) (id cb c : Nat) (hh : l.head = none) :
    l.linkFront id cb c = { l with heap := upd l.heap id ⟨none, none, cb, c⟩, head := some id, tail := some id } := by
  unfold CL.linkFront; simp [hh]

theorem linkFront_cons (l : CL) (id cb c : Nat) {hd} (hh : l.head = some hd) :
    l.linkFront id cb c = { l with
      heap := upd (upd l.heap id ⟨none, some hd, cb, c⟩) hd { l.heap hd with prev := some id }
      head := some id } := by
  unfold CL.linkFront; simp [hh]

theorem setOnes_seg : ∀ {xs : List Nat} {h : Heap} {o fuel}, Seg nextF h o xs none → xs.Nodup → xs.length < fuel →
    ∀ a, (setOnes h fuel o) a = if a ∈ xs then { h a with counter := 1 } else h a
  | [], h, o, fuel, hs, _, _, a => by
    cases seg_nil.mp hs
    cases fuel <;> simp [setOnes]
  | x :: r, h, o, fuel + 1, hs, hn, hl, a => by
    cases hs.1
    have hx : x ∉ r := (List.nodup_cons.mp hn).1
    rw [setOnes, setOnes_seg ((seg_upd_notin hx).mpr hs.2) (List.nodup_cons.mp hn).2 (Nat.lt_of_succ_lt_succ hl) a]
    by_cases ha : a = x
    · subst ha; simp [hx]
    · simp [ha]

theorem WF.split {l P n Q b} (w : WF l (P ++ n :: Q) b) :
    Seg nextF l.heap l.head P (some n) ∧ (l.heap n).next = Q.head? ∧ Seg nextF l.heap Q.head? Q none ∧
    Seg prevF l.heap l.tail Q.reverse (some n) ∧ (l.heap n).prev = P.getLast? ∧
    Seg prevF l.heap P.getLast? P.reverse none := by
  have hf := seg_split.mp w.fwd
  have hb := w.bwd
  rw [List.reverse_append, List.reverse_cons, List.append_assoc, List.singleton_append] at hb
  have hb' := seg_split.mp hb
  have e1 : (l.heap n).next = Q.head? := seg_head' hf.2
  have e2 : (l.heap n).prev = P.getLast? := List.head?_reverse ▸ seg_head' hb'.2
  exact ⟨hf.1, e1, e1 ▸ hf.2, hb'.1, e2, e2 ▸ hb'.2⟩

theorem WF.next_eq {l P n Q b} (w : WF l (P ++ n :: Q) b) : (l.heap n).next = Q.head? := w.split.2.1

theorem WF.prev_eq {l P n Q b} (w : WF l (P ++ n :: Q) b) : (l.heap n).prev = P.getLast? := w.split.2.2.2.2.1

/-- the `head == node` test of `doInsert` / `doFreeNode` -/
theorem WF.head_iff {l P n Q b} (w : WF l (P ++ n :: Q) b) : l.head = some n ↔ P = [] := by
  rw [w.head_eq, head?_split]
  split
  · simp [*]
  · have : P.head? ≠ some n := fun e => (nodup_split w.nodup).2.2.1 (List.mem_of_head? e)
    simp [*]

/-- the `tail == node` test of `doFreeNode` -/
theorem WF.tail_iff {l P n Q b} (w : WF l (P ++ n :: Q) b) : l.tail = some n ↔ Q = [] := by
  rw [w.tail_eq, getLast?_split]
  split
  · simp [*]
  · have : Q.getLast? ≠ some n := fun e => (nodup_split w.nodup).2.2.2.1 (List.mem_of_getLast? e)
    simp [*]

theorem WF.no_self {l : CL} {L : List Nat} {b : Nat} (w : WF l L b) {n : Nat} (hn : n ∈ L) :
    (l.heap n).next ≠ some n ∧ (l.heap n).prev ≠ some n := by
  obtain ⟨P, Q, rfl⟩ := List.append_of_mem hn
  obtain ⟨-, -, n3, n4, -, -⟩ := nodup_split w.nodup
  exact ⟨w.next_eq ▸ fun e => n4 (List.mem_of_head? e), w.prev_eq ▸ fun e => n3 (List.mem_of_getLast? e)⟩

theorem WF.next_mem {l L b n x} (w : WF l L b) (hn : n ∈ L) (hx : (l.heap n).next = some x) : x ∈ L := by
  obtain ⟨P, Q, rfl⟩ := List.append_of_mem hn
  exact mem_middle.mpr (.inr (List.mem_append_right _ (List.mem_of_head? (w.next_eq ▸ hx))))

theorem WF.prev_mem {l L b n x} (w : WF l L b) (hn : n ∈ L) (hx : (l.heap n).prev = some x) : x ∈ L := by
  obtain ⟨P, Q, rfl⟩ := List.append_of_mem hn
  exact List.mem_append_left _ (List.mem_of_getLast? (w.prev_eq ▸ hx))

theorem WF.freeNode {l P n Q b} (w : WF l (P ++ n :: Q) b) : WF (l.freeNode n) (P ++ Q) b := by
  have s2 := w.next_eq
  have s5 := w.prev_eq
  obtain ⟨-, -, n3, n4, -, n6⟩ := nodup_split w.nodup
  have hsub : ∀ a ∈ P ++ Q, a ∈ P ++ n :: Q ∧ a ≠ n := fun a ha =>
    ⟨mem_middle.mpr (Or.inr ha), fun e => (List.mem_append.mp (e ▸ ha)).elim n3 n4⟩
  refine ⟨n6, ?_, ?_, fun a => ?_, fun a ha => ?_, fun a ha => w.lt a (hsub a ha).1,
    by simpa using w.cur_lt, by simpa using w.m_ge, by simpa using w.ub⟩
  · simp only [freeNode_head, w.head_iff, s2]
    exact seg_remove w.fwd w.nodup (fun a _ => (freeNode_next l n a).trans (by rw [s5, s2]))
  · have hb := w.bwd
    rw [List.reverse_append, List.reverse_cons, List.append_assoc, List.singleton_append] at hb
    have := seg_remove (h' := (l.freeNode n).heap) hb (by simpa using nodup_reverse' w.nodup) (fun a _ =>
      (freeNode_prev l n a).trans (by rw [s5, s2, List.getLast?_reverse, List.head?_reverse]))
    simpa only [freeNode_tail, w.tail_iff, s5, List.reverse_append, List.reverse_eq_nil_iff,
      List.head?_reverse] using this
  · rw [freeNode_counter]
    split
    · simp [*]
    · rw [← w.live, mem_middle]; simp [*]
  · rw [freeNode_counter, if_neg (hsub a ha).2, freeNode_cur]
    exact w.cnt a (hsub a ha).1

/-- `l'` is `l` with the allocated node `id` (callback `cb`, generation `c`) linked between the chain parts `P` and
    `Q`, node by node.  `linkBack`, `linkFront` and `linkBefore` are this one surgery (`Q = []` at the back,
    `P = []` at the front). -/
structure Linked (l l' : CL) (id cb c : Nat) (P Q : List Nat) : Prop where
  next : ∀ a, (l'.heap a).next =
    if a = id then Q.head? else if P.getLast? = some a then some id else (l.heap a).next
  prev : ∀ a, (l'.heap a).prev =
    if a = id then P.getLast? else if Q.head? = some a then some id else (l.heap a).prev
  counter : ∀ a, (l'.heap a).counter = if a = id then c else (l.heap a).counter
  cb : ∀ a, (l'.heap a).cb = if a = id then cb else (l.heap a).cb
  head : l'.head = if P = [] then some id else l.head
  tail : l'.tail = if Q = [] then some id else l.tail
  cur : l'.cur = l.cur
  M : l'.M = l.M
  ub : l'.ub = l.ub

theorem Linked.wf {l l' id cb c P Q b b'} (k : Linked l l' id cb c P Q) (w : WF l (P ++ Q) b)
    (hid : (l.heap id).counter = 0) (hc0 : c ≠ 0) (hc : c ≤ l.cur) (hbb : b ≤ b') (hidb : id < b') :
    WF l' (P ++ id :: Q) b' := by
  have hidL : id ∉ P ++ Q := fun hm => (w.live id).mp hm hid
  refine ⟨nodup_middle_iff.mpr ⟨hidL, w.nodup⟩, ?_, ?_, fun a => ?_, fun a ha => ?_, fun a ha => ?_,
    k.cur ▸ k.M ▸ w.cur_lt, k.M ▸ w.m_ge, k.ub ▸ w.ub⟩
  · rw [k.head]
    exact seg_insert w.fwd w.nodup hidL k.next
  · have hb := w.bwd
    rw [List.reverse_append] at hb
    have := seg_insert (h' := l'.heap) (id := id) hb (by simpa using nodup_reverse' w.nodup)
      (by simpa [or_comm] using hidL)
      (fun a => (k.prev a).trans (by rw [List.getLast?_reverse, List.head?_reverse]))
    simpa only [k.tail, List.reverse_append, List.reverse_cons, List.append_assoc, List.singleton_append,
      List.reverse_eq_nil_iff] using this
  · rw [k.counter, mem_middle]
    split
    · simp [*]
    · simp [*, ← w.live]
  · rw [k.counter, k.cur]
    split
    · exact hc
    · exact w.cnt a ((mem_middle.mp ha).resolve_left ‹_›)
  · rcases mem_middle.mp ha with rfl | ha
    · exact hidb
    · exact Nat.lt_of_lt_of_le (w.lt a ha) hbb

theorem Linked.frozen {l l' id cb c P Q b} (k : Linked l l' id cb c P Q) (w : WF l (P ++ Q) b) {a : Nat}
    (ha0 : (l.heap a).counter = 0) (ha : a ≠ id) : (l'.heap a).next = (l.heap a).next := by
  rw [k.next, if_neg ha, if_neg]
  exact fun e => (w.live a).mp (List.mem_append_left _ (List.mem_of_getLast? e)) ha0

theorem WF.linkBack_linked {l L b id} (w : WF l L b) (hid : (l.heap id).counter = 0) (cb c : Nat) :
    Linked l (l.linkBack id cb c) id cb c L [] := by
  have hidL : id ∉ L := fun hm => (w.live id).mp hm hid
  rcases List.eq_nil_or_concat L with rfl | ⟨P, t, rfl⟩
  · rw [linkBack_nil _ _ _ _ w.head_eq]
    refine ⟨fun a => ?_, fun a => ?_, fun a => ?_, fun a => ?_, rfl, rfl, rfl, rfl, rfl⟩ <;>
      by_cases h : a = id <;> simp [h]
  · rw [List.concat_eq_append] at *
    have ht : l.tail = some t := by simpa using w.tail_eq
    obtain ⟨hd, hhd⟩ : ∃ hd, l.head = some hd := by
      rw [w.head_eq]; cases P <;> simp
    have htid : t ≠ id := fun e => hidL (by simp [e])
    rw [linkBack_cons _ _ _ _ hhd ht]
    -- a node is the old tail, the new node, or untouched
    refine ⟨fun a => ?_, fun a => ?_, fun a => ?_, fun a => ?_, by simp, rfl, rfl, rfl, rfl⟩ <;>
      by_cases h1 : a = t <;> by_cases h2 : a = id <;> simp [h1, h2, htid, htid.symm, eq_comm (a := t)]

theorem WF.linkFront_linked {l L b id} (w : WF l L b) (hid : (l.heap id).counter = 0) (cb c : Nat) :
    Linked l (l.linkFront id cb c) id cb c [] L := by
  have hidL : id ∉ L := fun hm => (w.live id).mp hm hid
  cases L with
  | nil =>
    rw [linkFront_nil _ _ _ _ w.head_eq]
    refine ⟨fun a => ?_, fun a => ?_, fun a => ?_, fun a => ?_, rfl, rfl, rfl, rfl, rfl⟩ <;>
      by_cases h : a = id <;> simp [h]
  | cons hd T =>
    have hdid : hd ≠ id := fun e => hidL (by simp [e])
    rw [linkFront_cons _ _ _ _ w.head_eq]
    -- a node is the old head, the new node, or untouched
    refine ⟨fun a => ?_, fun a => ?_, fun a => ?_, fun a => ?_, rfl, by simp, rfl, rfl, rfl⟩ <;>
      by_cases h1 : a = hd <;> by_cases h2 : a = id <;> simp [h1, h2, hdid, hdid.symm, eq_comm (a := hd)]

theorem WF.linkBefore_linked {l P n Q b id} (w : WF l (P ++ n :: Q) b) (hid : (l.heap id).counter = 0)
    (cb c : Nat) : Linked l (l.linkBefore id cb c n) id cb c P (n :: Q) := by
  have s5 := w.prev_eq
  have hidL : id ∉ P ++ n :: Q := fun hm => (w.live id).mp hm hid
  have hidn : id ≠ n := fun e => hidL (by simp [e])
  have hidP : P.getLast? ≠ some id := fun e => hidL (List.mem_append_left _ (List.mem_of_getLast? e))
  refine ⟨fun a => ?_, fun a => ?_, linkBefore_counter l id cb c n, linkBefore_cb l id cb c n, ?_,
    by simp, by simp, by simp, by simp⟩
  · rw [linkBefore_next _ _ _ _ _ _ hidn (s5 ▸ hidP), s5]
    by_cases h : a = id <;> simp [h, hidP]
  · rw [linkBefore_prev, s5]
    by_cases h : a = id <;> simp [h, hidn, eq_comm]
  · simp only [linkBefore_head, w.head_iff]

theorem WF.linkBefore {l P n Q b b' id cb c} (w : WF l (P ++ n :: Q) b)
    (hid : (l.heap id).counter = 0) (hc0 : c ≠ 0) (hc : c ≤ l.cur) (hbb : b ≤ b') (hidb : id < b') :
    WF (l.linkBefore id cb c n) (P ++ id :: n :: Q) b' :=
  (w.linkBefore_linked hid cb c).wf w hid hc0 hc hbb hidb

theorem WF.linkBack {l L b b' id cb c} (w : WF l L b)
    (hid : (l.heap id).counter = 0) (hc0 : c ≠ 0) (hc : c ≤ l.cur) (hbb : b ≤ b') (hidb : id < b') :
    WF (l.linkBack id cb c) (L ++ [id]) b' :=
  (w.linkBack_linked hid cb c).wf (by rwa [List.append_nil]) hid hc0 hc hbb hidb

theorem WF.linkFront {l L b b' id cb c} (w : WF l L b)
    (hid : (l.heap id).counter = 0) (hc0 : c ≠ 0) (hc : c ≤ l.cur) (hbb : b ≤ b') (hidb : id < b') :
    WF (l.linkFront id cb c) (id :: L) b' :=
  (w.linkFront_linked hid cb c).wf w hid hc0 hc hbb hidb

theorem WF.length_le {l L b} (w : WF l L b) : L.length ≤ b := nodup_lt_length b L w.nodup w.lt

theorem WF.linkBack_fields {l L b id cb c} (w : WF l L b) (hid : (l.heap id).counter = 0) (a : Nat) :
    ((l.linkBack id cb c).heap a).counter = (if a = id then c else (l.heap a).counter) ∧
    ((l.linkBack id cb c).heap a).cb = (if a = id then cb else (l.heap a).cb) ∧
    ((l.heap a).counter = 0 → a ≠ id → ((l.linkBack id cb c).heap a).next = (l.heap a).next) :=
  have k := w.linkBack_linked hid cb c
  ⟨k.counter a, k.cb a, k.frozen (by rwa [List.append_nil])⟩

theorem WF.linkFront_fields {l L b id cb c} (w : WF l L b) (hid : (l.heap id).counter = 0) (a : Nat) :
    ((l.linkFront id cb c).heap a).counter = (if a = id then c else (l.heap a).counter) ∧
    ((l.linkFront id cb c).heap a).cb = (if a = id then cb else (l.heap a).cb) ∧
    ((l.heap a).counter = 0 → a ≠ id → ((l.linkFront id cb c).heap a).next = (l.heap a).next) :=
  have k := w.linkFront_linked hid cb c
  ⟨k.counter a, k.cb a, k.frozen w⟩

theorem WF.linkBefore_frozen {l P n Q b id cb c} (w : WF l (P ++ n :: Q) b) (hid : (l.heap id).counter = 0)
    (a : Nat) (ha0 : (l.heap a).counter = 0) (ha : a ≠ id) :
    ((l.linkBefore id cb c n).heap a).next = (l.heap a).next :=
  (w.linkBefore_linked hid cb c).frozen w ha0 ha

theorem WF.freeNode_frozen {l P n Q b} (w : WF l (P ++ n :: Q) b)
    (a : Nat) (ha0 : (l.heap a).counter = 0) :
    ((l.freeNode n).heap a).next = (l.heap a).next := by
  rw [freeNode_next, w.prev_eq, if_neg]
  exact fun e => (w.live a).mp (List.mem_append_left _ (List.mem_of_getLast? e)) ha0

theorem nextCounter_nowrap {l : CL} (nw : l.willWrap = false) (fuel : Nat) :
    l.nextCounter fuel = ({ l with cur := l.cur + 1 }, l.cur + 1) := by
  unfold CL.nextCounter
  have : ¬ (l.cur + 1) % l.M = 0 := by simpa [CL.willWrap] using nw
  simp [this]

theorem nextCounter_wrap {l : CL} (hw : l.willWrap = true) (fuel : Nat) :
    l.nextCounter fuel = ({ l with heap := setOnes l.heap fuel l.head, cur := 1 }, 1) := by
  unfold CL.nextCounter
  have : (l.cur + 1) % l.M = 0 := by simpa [CL.willWrap] using hw
  simp [this]

theorem WF.cur_succ {l L b} (w : WF l L b) (nw : ¬ (l.cur + 1) % l.M = 0) : l.cur + 1 < l.M :=
  Nat.lt_of_le_of_ne w.cur_lt fun e => nw (by rw [e]; exact Nat.mod_self _)

theorem WF.cur_mono {l L b} (w : WF l L b) {c : Nat} (h1 : l.cur ≤ c) (h2 : c < l.M) : WF { l with cur := c } L b :=
  { w with cnt := fun n hn => Nat.le_trans (w.cnt n hn) h1, cur_lt := h2 }

/-- `getNextCounter` keeps the object well formed (in both branches), draws a live generation that
    is at most the new `cur`, and changes nothing but counters of live nodes. -/
theorem WF.nextCounter {l L b} (w : WF l L b) :
    WF (l.nextCounter (b + 1)).1 L b ∧ (l.nextCounter (b + 1)).2 ≠ 0 ∧
    (l.nextCounter (b + 1)).2 ≤ (l.nextCounter (b + 1)).1.cur ∧
    ∀ a, ((l.nextCounter (b + 1)).1.heap a).next = (l.heap a).next ∧
      ((l.nextCounter (b + 1)).1.heap a).prev = (l.heap a).prev ∧
      ((l.nextCounter (b + 1)).1.heap a).cb = (l.heap a).cb ∧
      (((l.nextCounter (b + 1)).1.heap a).counter = 0 ↔ (l.heap a).counter = 0) := by
  unfold CL.nextCounter
  split
  · have hs := setOnes_seg w.fwd w.nodup (Nat.lt_succ_of_le w.length_le)
    have hfield : ∀ a, ((setOnes l.heap (b + 1) l.head) a).next = (l.heap a).next ∧
        ((setOnes l.heap (b + 1) l.head) a).prev = (l.heap a).prev ∧
        ((setOnes l.heap (b + 1) l.head) a).cb = (l.heap a).cb ∧
        (((setOnes l.heap (b + 1) l.head) a).counter = 0 ↔ (l.heap a).counter = 0) := by
      intro a
      rw [hs a]
      by_cases ha : a ∈ L
      · have := (w.live a).mp ha
        simp [ha, this]
      · simp [ha]
    refine ⟨⟨w.nodup, ?_, ?_, ?_, ?_, w.lt, ?_, w.m_ge, w.ub⟩, by simp, by simp, hfield⟩
    · exact (seg_congr (fun a _ => (hfield a).1)).mpr w.fwd
    · exact (seg_congr (fun a _ => (hfield a).2.1)).mpr w.bwd
    · intro a
      rw [w.live a]
      exact (not_congr (hfield a).2.2.2).symm
    · intro a ha
      show ((setOnes l.heap (b + 1) l.head) a).counter ≤ 1
      rw [hs a]; simp [ha]
    · have := w.m_ge
      show 1 < l.M
      omega
  · exact ⟨w.cur_mono (Nat.le_succ _) (w.cur_succ ‹_›), by simp, by simp, by simp⟩

end Evp
