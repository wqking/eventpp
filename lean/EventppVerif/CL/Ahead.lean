import EventppVerif.CL.OpAux
/-
  The live nodes ahead of a running traversal.

  Every frame invariant (`FrameOK`, CL/Inv.lean; `FrameD`, `FrameSub`, CL/FrameSub.lean) says:
  following `next` from the traversal's node `n` walks removed nodes `R` (their links are frozen)
  and then enters a suffix `S` of the live chain — and then something about the list `Y` of live
  nodes after `n` on that walk (`S.tail` if `n` itself is live, i.e. `R = []`, otherwise `S`): the
  nodes the traversal can still call.  `Ahead l SL b n Y` is that first half with `Y` named; the
  frame invariants only add a condition on a filter of `Y`.
-/
namespace Evp

/-- `r < b` for the removed nodes `R` (with `R.Nodup`) bounds the walk `R ++ S` by `b` nodes, so that the fuel `b + 1`
    of `seek` / `chainOf` suffices (`path_chain`), and keeps the fresh id `b` of the next allocation out of `R`
    (`Ahead.linked`). -/
def Ahead (l : CL) (SL : SList) (b n : Nat) (Y : List Nat) : Prop :=
  ∃ R S : List Nat, S <:+ SL.ids ∧ (∀ r ∈ R, (l.heap r).counter = 0 ∧ r < b) ∧ R.Nodup ∧
    Seg nextF l.heap (some n) R S.head? ∧ Y = if R = [] then S.tail else S

theorem Ahead.suffix {l SL b n Y} (a : Ahead l SL b n Y) : Y <:+ SL.ids := by
  obtain ⟨R, S, h1, _, _, _, rfl⟩ := a
  split
  · exact (List.tail_suffix S).trans h1
  · exact h1

theorem Ahead.mono {l SL b b' n Y} (a : Ahead l SL b n Y) (hb : b ≤ b') : Ahead l SL b' n Y := by
  obtain ⟨R, S, h1, h2, h⟩ := a
  exact ⟨R, S, h1, fun r hr => ⟨(h2 r hr).1, Nat.lt_of_lt_of_le (h2 r hr).2 hb⟩, h⟩

/-- `Ahead` does not read `cur` -/
theorem Ahead.cur {l SL b n Y} (a : Ahead l SL b n Y) (c : Nat) : Ahead { l with cur := c } SL b n Y := a

theorem WF.suffix_seg {l L b S} (w : WF l L b) (hs : S <:+ L) : Seg nextF l.heap S.head? S none := by
  obtain ⟨P, rfl⟩ := hs
  exact (seg_append_none.mp w.fwd).2

theorem Rep.suffix_mem {l SL b S} (r : Rep l SL b) (hs : S <:+ SL.ids) {a} (ha : a ∈ S) :
    (l.heap a).counter ≠ 0 ∧ a < b ∧ a ≠ b := by
  have hm : a ∈ SL.ids := hs.subset ha
  have := r.wf.lt a hm
  exact ⟨(r.wf.live a).mp hm, this, Nat.ne_of_lt this⟩

/-- the nodes ahead `Y` lie on the suffix `S` -/
theorem mem_Y {R S : List Nat} {a} (ha : a ∈ (if R = [] then S.tail else S)) : a ∈ S := by
  split at ha
  · exact List.mem_of_mem_tail ha
  · exact ha

theorem guard_live {c cap : Nat} (hc : c ≠ 0) : guard c cap = decide (c ≤ cap) := by
  simp [guard, hc]

theorem path_chain {l SL b n} {R S : List Nat} (r : Rep l SL b) (h1 : S <:+ SL.ids)
    (h2 : ∀ r ∈ R, (l.heap r).counter = 0 ∧ r < b) (h3 : R.Nodup) (h4 : Seg nextF l.heap (some n) R S.head?) :
    (R ++ S).Nodup ∧ (∀ a ∈ R ++ S, a < b) ∧ Seg nextF l.heap (some n) (R ++ S) none ∧
      chainOf l.heap (b + 1) (some n) = R ++ S := by
  have hnd : (R ++ S).Nodup := List.nodup_append.mpr ⟨h3, nodup_suffix h1 r.wf.nodup, fun a ha c hc e =>
    (r.suffix_mem h1 hc).1 (e ▸ (h2 a ha).1)⟩
  have hlt : ∀ a ∈ R ++ S, a < b := fun a ha =>
    (List.mem_append.mp ha).elim (fun ha => (h2 a ha).2) (fun ha => (r.suffix_mem h1 ha).2.1)
  have hseg : Seg nextF l.heap (some n) (R ++ S) none := seg_append.mpr ⟨_, h4, r.wf.suffix_seg h1⟩
  exact ⟨hnd, hlt, hseg, chainOf_seg hseg (Nat.lt_succ_of_le (nodup_lt_length _ _ hnd hlt))⟩

theorem Ahead.seek_eq {l SL b n Y} (r : Rep l SL b) (a : Ahead l SL b n Y) (cap : Nat) :
    seek l.heap cap (b + 1) (l.heap n).next = (Y.filter (fun a => decide ((l.heap a).counter ≤ cap))).head? := by
  obtain ⟨R, S, h1, h2, h3, h4, rfl⟩ := a
  -- behind `n` come the rest of its frozen nodes, then the live nodes ahead
  obtain ⟨R', hZ, hR'⟩ : ∃ R', R ++ S = n :: (R' ++ if R = [] then S.tail else S) ∧ ∀ a ∈ R', a ∈ R := by
    cases R with
    | nil =>
      cases S with
      | nil => cases h4
      | cons x T => cases h4; exact ⟨[], rfl, nofun⟩
    | cons r0 R' => cases h4.1; exact ⟨R', rfl, fun a ha => List.mem_cons_of_mem _ ha⟩
  obtain ⟨hnd, hlt, hseg, -⟩ := path_chain r h1 h2 h3 h4
  have hlen := nodup_lt_length _ _ hnd hlt
  rw [hZ] at hseg hlen
  rw [seek_seg hseg.2 (Nat.lt_succ_of_lt hlen), List.find?_append, List.head?_filter]
  -- frozen nodes fail the guard; on live nodes the guard is the generation test
  have : R'.find? (fun n => guard (l.heap n).counter cap) = none :=
    List.find?_eq_none.mpr fun a ha => by simp [guard, (h2 a (hR' a ha)).1]
  rw [this, Option.none_or, ← List.head?_filter, ← List.head?_filter]
  exact congrArg _ (List.filter_congr fun a ha => guard_live (r.suffix_mem h1 (mem_Y ha)).1)

theorem Ahead.seek_some {l SL b n Y cap n'} (r : Rep l SL b) (a : Ahead l SL b n Y)
    (hs : seek l.heap cap (b + 1) (l.heap n).next = some n') :
    ∃ l₁ l₂, Y = l₁ ++ n' :: l₂ ∧ (∀ x ∈ l₁, ¬ (l.heap x).counter ≤ cap) ∧ (l.heap n').counter ≤ cap ∧
      Ahead l SL b n' l₂ := by
  rw [a.seek_eq r] at hs
  obtain ⟨l₁, l₂, hY, hl₁, hn', _⟩ := List.filter_eq_cons_iff.mp (List.head?_eq_some_iff.mp hs).choose_spec
  refine ⟨l₁, l₂, hY, fun x hx => by simpa using hl₁ x hx, by simpa using hn', [], n' :: l₂, ?_, by simp,
    by simp, rfl, rfl⟩
  exact List.IsSuffix.trans ⟨l₁, hY.symm⟩ a.suffix

theorem Ahead.start (l : CL) (b : Nat) (e : Entry) (es : List Entry) :
    Ahead l (e :: es) b e.id (SList.ids es) :=
  ⟨[], SList.ids (e :: es), List.suffix_refl _, by simp, by simp, rfl, rfl⟩

theorem Ahead.walk {l SL b n Y} (r : Rep l SL b) (a : Ahead l SL b n Y) :
    ∃ R S : List Nat, S <:+ SL.ids ∧ (∀ x ∈ R, (l.heap x).counter = 0) ∧
      (if R = [] then S.head? = some n else R.head? = some n) ∧
      chainOf l.heap (b + 1) (some n) = R ++ S ∧ (R ++ S).Nodup ∧ Y = if R = [] then S.tail else S := by
  obtain ⟨R, S, h1, h2, h3, h4, hY⟩ := a
  obtain ⟨hnd, -, -, hch⟩ := path_chain r h1 h2 h3 h4
  refine ⟨R, S, h1, fun x hx => (h2 x hx).1, ?_, hch, hnd, hY⟩
  cases R with
  | nil => simpa [Seg] using h4.symm
  | cons x R' => simpa [Seg] using h4.1.symm

/-- `getNextCounter` (wrap branch or not) changes counters of live nodes only -/
theorem Ahead.nextCounter {l SL b n Y} (r : Rep l SL b) (a : Ahead l SL b n Y) :
    Ahead (l.nextCounter (b + 1)).1 SL b n Y := by
  obtain ⟨R, S, h1, h2, h3, h4, hY⟩ := a
  obtain ⟨_, _, _, hf⟩ := r.wf.nextCounter
  exact ⟨R, S, h1, fun x hx => ⟨(hf x).2.2.2.mpr (h2 x hx).1, (h2 x hx).2⟩, h3,
    (seg_congr (fun a _ => (hf a).1)).mpr h4, hY⟩

/-- `Y'` is `Y`, possibly with `x` put in somewhere -/
def InsAt (x : Nat) (Y Y' : List Nat) : Prop := Y' = Y ∨ ∃ A B, Y = A ++ B ∧ Y' = A ++ x :: B

theorem InsAt.mem {x a : Nat} {Y Y' : List Nat} (h : InsAt x Y Y') (ha : a ∈ Y') : a = x ∨ a ∈ Y := by
  rcases h with rfl | ⟨A, B, rfl, rfl⟩
  · exact .inr ha
  · exact mem_middle.mp ha

theorem InsAt.filter {x : Nat} {Y Y' : List Nat} (h : InsAt x Y Y') {q q' : Nat → Bool} (hx : q' x = false)
    (hq : ∀ a ∈ Y, q' a = q a) : Y'.filter q' = Y.filter q := by
  rcases h with rfl | ⟨A, B, rfl, rfl⟩
  · exact List.filter_congr hq
  · exact filter_insert_fresh hx hq

theorem InsAt.subset {x a : Nat} {Y Y' : List Nat} (h : InsAt x Y Y') (ha : a ∈ Y) : a ∈ Y' := by
  rcases h with rfl | ⟨A, B, rfl, rfl⟩
  · exact ha
  · exact mem_middle.mpr (.inr ha)

/-- Putting `id` between the parts `A` and `B` of a list, seen from a split `Pre ++ S` of the list: the part before
    the split point gains at most `id`; the part `S` from the split point on keeps its head and gains `id` only
    behind it (it lies inside `B` and is untouched, or starts inside `A`). -/
theorem split_insert {Pre S A B : List Nat} (id : Nat) (hs : Pre ++ S = A ++ B) :
    ∃ Pre' S', Pre' ++ S' = A ++ id :: B ∧ Pre.Sublist Pre' ∧ S'.head? = S.head? ∧
      InsAt id S S' ∧ InsAt id S.tail S'.tail := by
  rcases List.append_eq_append_iff.mp hs with ⟨_ | ⟨x, C⟩, h1, h2⟩ | ⟨D, h1, h2⟩
  · exact ⟨A ++ [id], S, by simp [h2], by rw [h1]; simp, rfl, .inl rfl, .inl rfl⟩
  · exact ⟨Pre, x :: C ++ id :: B, by rw [h1]; simp, .refl _, by rw [h2]; rfl,
      .inr ⟨x :: C, B, h2, rfl⟩, .inr ⟨C, B, by rw [h2]; rfl, rfl⟩⟩
  · exact ⟨A ++ id :: D, S, by rw [h2]; simp, by rw [h1]; exact .append_left (List.sublist_cons_self id D) A,
      rfl, .inl rfl, .inl rfl⟩

/-- Linking the fresh node `b`: the frozen nodes of the traversal are untouched; the part of the live chain it
    will still walk either lies behind the new node or gains it. -/
theorem Ahead.linked {l l' SL SL' b cb c P Q n Y} (k : Linked l l' b cb c P Q) (i : Inserted SL SL' b cb P Q)
    (r : Rep l SL b) (a : Ahead l SL b n Y) : ∃ Y', Ahead l' SL' (b + 1) n Y' ∧ InsAt b Y Y' := by
  obtain ⟨R, S, ⟨P0, hP0⟩, h2, h3, h4, rfl⟩ := a
  have w : WF l (P ++ Q) b := i.ids ▸ r.wf
  obtain ⟨Pre', S', s1, -, s2, i1, i2⟩ := split_insert b (hP0.trans i.ids)
  refine ⟨_, ⟨R, S', i.ids' ▸ ⟨Pre', s1⟩, fun a ha => ?_, h3, ?_, rfl⟩, by split; exact i2; exact i1⟩
  · rw [k.counter, if_neg (Nat.ne_of_lt (h2 a ha).2)]
    exact ⟨(h2 a ha).1, Nat.lt_succ_of_lt (h2 a ha).2⟩
  · rw [s2]
    exact (seg_congr (fun a ha => k.frozen w (h2 a ha).1 (Nat.ne_of_lt (h2 a ha).2))).mpr h4

theorem filter_keep_head {α} {p : α → Bool} {S : List α} (h : ∀ a, S.head? = some a → p a = true) :
    (S.filter p).head? = S.head? ∧ (S.filter p).tail = S.tail.filter p := by
  cases S with
  | nil => exact ⟨rfl, rfl⟩
  | cons a T => simp [h a rfl]

/-- Unlinking the node `h` of the chain, seen from a walk over removed nodes `R` (each with `Q`) into the suffix
    `S`: the removed nodes keep counter and link; if the walk enters the chain at `h`, then `h` joins them and
    leads on into the rest of `S`; otherwise `h` just leaves `S`. -/
theorem path_freeNode {l SL b h n} {R S : List Nat} {Q : Nat → Prop} (r : Rep l SL b) (hm : h ∈ SL.ids) (hQ : Q h)
    (h1 : S <:+ SL.ids) (h2 : ∀ a ∈ R, (l.heap a).counter = 0 ∧ Q a) (h3 : R.Nodup)
    (h4 : Seg nextF l.heap (some n) R S.head?) :
    ∃ R' S', (∀ a ∈ R', ((l.freeNode h).heap a).counter = 0 ∧ Q a) ∧ R'.Nodup ∧
      Seg nextF (l.freeNode h).heap (some n) R' S'.head? ∧
      ((S = h :: S' ∧ h ∉ S' ∧ R' = R ++ [h]) ∨ (S.head? ≠ some h ∧ S' = S.filter (· != h) ∧ R' = R)) := by
  obtain ⟨P, Q', hPQ⟩ := List.append_of_mem hm
  have w : WF l (P ++ h :: Q') b := hPQ ▸ r.wf
  have hdead : ∀ a ∈ R, ((l.freeNode h).heap a).counter = 0 ∧ Q a := fun a ha =>
    ⟨by rw [freeNode_counter, (h2 a ha).1, ite_self], (h2 a ha).2⟩
  have hseg : ∀ {e}, Seg nextF l.heap (some n) R e → Seg nextF (l.freeNode h).heap (some n) R e :=
    (seg_congr fun a ha => w.freeNode_frozen a (h2 a ha).1).mpr
  by_cases hhd : S.head? = some h
  · obtain ⟨T, rfl⟩ : ∃ T, S = h :: T := by
      cases S with
      | nil => cases hhd
      | cons a T => exact ⟨T, by cases hhd; rfl⟩
    have hnext : ((l.freeNode h).heap h).next = T.head? := by
      rw [freeNode_next, ite_self]
      exact seg_head' (r.wf.suffix_seg h1).2
    refine ⟨R ++ [h], T, fun a ha => ?_, ?_, seg_snoc.mpr ⟨hseg h4, hnext⟩,
      .inl ⟨rfl, (List.nodup_cons.mp (nodup_suffix h1 r.wf.nodup)).1, rfl⟩⟩
    · rcases List.mem_append.mp ha with ha | ha
      · exact hdead a ha
      · cases List.mem_singleton.mp ha
        exact ⟨by rw [freeNode_counter, if_pos rfl], hQ⟩
    · exact List.nodup_append.mpr ⟨h3, by simp, fun a ha c hc e =>
        (r.wf.live h).mp hm ((List.mem_singleton.mp hc ▸ e) ▸ (h2 a ha).1)⟩
  · refine ⟨R, _, hdead, h3, ?_, .inr ⟨hhd, rfl, rfl⟩⟩
    rw [(filter_keep_head (p := fun n => n != h) (S := S) fun a ha => by
      simpa using fun e : a = h => hhd (e ▸ ha)).1]
    exact hseg h4

/-- Unlinking a node: it drops out of the nodes ahead; if the traversal was about to enter the live chain at that
    very node, the node joins its frozen nodes and still leads on into the chain. -/
theorem Ahead.freeNode {l SL b n Y h} (r : Rep l SL b) (a : Ahead l SL b n Y) (hp : SL.present h = true) :
    Ahead (l.freeNode h) (SL.erase h) b n (Y.filter (· != h)) := by
  obtain ⟨R, S, h1, h2, h3, h4, rfl⟩ := a
  have hm := SList.present_iff.mp hp
  have hsuf : ∀ {T}, T <:+ S → T.filter (fun n => n != h) <:+ (SL.erase h).ids := fun hT =>
    SList.ids_erase SL h ▸ (hT.trans h1).filter _
  obtain ⟨R', S', d, nd, sg, ⟨rfl, hT, rfl⟩ | ⟨hS, rfl, rfl⟩⟩ := path_freeNode r hm (r.wf.lt h hm) h1 h2 h3 h4
  · refine ⟨_, S', filter_ne_self hT ▸ hsuf (List.suffix_cons h S'), d, nd, sg, ?_⟩
    rw [if_neg (List.append_ne_nil_of_right_ne_nil _ (List.cons_ne_nil _ _))]
    split <;> simp [filter_ne_self hT]
  · refine ⟨_, _, hsuf (List.suffix_refl S), d, nd, sg, ?_⟩
    rw [(filter_keep_head (p := fun n => n != h) (S := S) fun a ha => by
      simpa using fun e : a = h => hS (e ▸ ha)).2]
    split <;> rfl

end Evp
