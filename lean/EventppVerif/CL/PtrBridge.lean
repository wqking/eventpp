import EventppVerif.Generated.ClFrag
/-
  Bridge between the pointer statements regenerated from callbacklist.h (Generated/ClFrag.lean,
  terms of `PL.Stmt` with the semantics `PL.exec`) and the hand-written pointer Model
  (CL/Model.lean): for EVERY list state, executing the source statements computes exactly what
  `freeNode` / `linkBack` / `linkBefore` compute (heaps compared point-wise), without dereferencing
  null.  A change to one of the three bodies in the source changes the generated term, and these
  theorems have to be re-proved against it.
-/
namespace Evp.PL
open Evp.Gen.Cl

/-- the result of running pointer statements agrees with a Model state -/
def Agrees (s : PS) (m : CL) : Prop :=
  s.ub = false ∧ (∀ k, s.heap k = m.heap k) ∧ s.head = m.head ∧ s.tail = m.tail

/-- a conditional between two states, field by field: with it a program that ends in `if(..) head = ..` does not
    double the case analysis -/
theorem PS.ite_eta (c : Prop) [Decidable c] (a b : PS) :
    (if c then a else b) =
      ⟨if c then a.heap else b.heap, if c then a.head else b.head, if c then a.tail else b.tail,
        if c then a.v0 else b.v0, if c then a.v1 else b.v1, if c then a.ub else b.ub⟩ := by
  split <;> rfl

attribute [local simp] exec evalP evalC getFld setFld PS.ite_eta

/-- **`doFreeNode(node)` is `CL.freeNode`** for every state in which the node is not its own
    neighbour (true of every well-formed list: `WF.no_self`). -/
theorem bridge_doFreeNode (fuel : Nat) (l : CL) (n : Nat)
    (hn : (l.heap n).next ≠ some n) (hp : (l.heap n).prev ≠ some n) :
    Agrees (exec fuel doFreeNode (ofCL l (some n) none)) (l.freeNode n) := by
  unfold Agrees doFreeNode CL.freeNode ofCL
  rcases hx : (l.heap n).next with _ | x <;> rcases hq : (l.heap n).prev with _ | p
  · simp [hx, hq]
  · have hnp : n ≠ p := fun e => hp (e ▸ hq)
    simp [hx, hq, hnp]
  · have hnx : n ≠ x := fun e => hn (e ▸ hx)
    simp [hx, hq, hnx]
  · have hnp : n ≠ p := fun e => hp (e ▸ hq)
    have hnx : n ≠ x := fun e => hn (e ▸ hx)
    simp [hx, hq, hnx, hnp]

/-- the list object just after `doAllocateNode`: the new node exists, unlinked -/
def allocated (l : CL) (id : Nat) (cb : Cb) (c : Nat) : CL :=
  { l with heap := upd l.heap id ⟨none, none, cb, c⟩ }

/-- **`doAppend(node)` is `CL.linkBack`** for every state whose `tail` is set when `head` is (and is
    not the new node). -/
theorem bridge_doAppend (fuel : Nat) (l : CL) (id : Nat) (cb : Cb) (c : Nat)
    (ht : l.head.isSome → ∃ t, l.tail = some t ∧ t ≠ id) :
    Agrees (exec fuel doAppend (ofCL (allocated l id cb c) (some id) none)) (l.linkBack id cb c) := by
  unfold Agrees doAppend CL.linkBack ofCL allocated
  rcases hh : l.head with _ | hd
  · simp
  · obtain ⟨t, htl, hne⟩ := ht (by simp [hh])
    simp [htl, hne]
    intro k
    by_cases h1 : k = t <;> by_cases h2 : k = id <;> simp_all

/-- **`doInsert(node, beforeNode)` is `CL.linkBefore`** for every state (the new node is not the
    `before` node). -/
theorem bridge_doInsert (fuel : Nat) (l : CL) (id : Nat) (cb : Cb) (c : Nat) (b : Nat) (hb : b ≠ id) :
    Agrees (exec fuel doInsert (ofCL (allocated l id cb c) (some id) (some b))) (l.linkBefore id cb c b) := by
  unfold Agrees doInsert CL.linkBefore ofCL allocated
  rcases hq : (l.heap b).prev with _ | p <;> simp [hq, hb, upd_get] <;> grind

/-- the reset loop `while(node) { node->counter = 1; node = node->next; }` is `setOnes` -/
theorem iter_setOnes (F : Nat) : ∀ (fuel : Nat) (h : Heap) (o hd tl v1 : Option Nat),
    let s := iter (exec F (.seq (.setCounter (.var 0) 1) (.assign (.var 0) (.fld (.var 0) .next))))
      (fun s => (evalP s (.var 0)).1.isSome) fuel ⟨h, hd, tl, o, v1, false⟩
    s.heap = setOnes h fuel o ∧ s.head = hd ∧ s.tail = tl ∧ s.ub = false := by
  intro fuel
  induction fuel with
  | zero => intro h o hd tl v1; simp [iter, setOnes]
  | succ f ih =>
    intro h o hd tl v1
    cases o with
    | none => simp [iter, setOnes]
    | some n => simpa [iter, setOnes] using ih (upd h n { h n with counter := 1 }) (h n).next hd tl v1

/-- **the wrap branch of `getNextCounter` (source) is `setOnes` (Model)**: for every list state and
    every walk bound, the reset loop leaves exactly the heap `setOnes l.heap fuel l.head`, and `head`,
    `tail` untouched, without dereferencing null. -/
theorem bridge_wrapReset (fuel : Nat) (l : CL) :
    let s := exec fuel wrapReset (ofCL l none none)
    s.heap = setOnes l.heap fuel l.head ∧ s.head = l.head ∧ s.tail = l.tail ∧ s.ub = false := by
  simpa [wrapReset, ofCL] using iter_setOnes fuel fuel l.heap l.head l.head l.tail none

/-- the regenerated traversal test is the Model's `guard` -/
theorem bridge_guard (nc cap : Nat) : Gen.Cl.guard nc cap = Evp.guard nc cap := rfl

end Evp.PL
