import EventppVerif.CL.Sim
/-
  Whole traversals.  A run in which no command is executed (`SCfg.Quiet`: every step returns from a callback or
  starts a traversal) is followed by the Model without touching a list object, `nextId` or `wraps`, so the
  simulation needs no no-wrap hypothesis along it.  A traversal whose callbacks return at once is such a run.
-/
namespace Evp

/-- the call events of the entries `snap`, oldest first -/
def callsOf (l arg : Nat) (honour : Bool) (snap : List Entry) : List Ev :=
  snap.map (fun e => Ev.call ⟨l, e.id, e.cb, arg, honour⟩)

@[simp] theorem callsOf_nil (l arg ho) : callsOf l arg ho [] = [] := rfl
@[simp] theorem callsOf_cons (l arg ho e es) :
    callsOf l arg ho (e :: es) = Ev.call ⟨l, e.id, e.cb, arg, ho⟩ :: callsOf l arg ho es := rfl
theorem callsOf_append (l arg ho a b) : callsOf l arg ho (a ++ b) = callsOf l arg ho a ++ callsOf l arg ho b := by
  simp [callsOf]

/-- the next step of a program with this head executes no command: it returns from a callback or starts
    a traversal -/
def Prog.quiet : Prog → Prop
  | .ret _ => True
  | .op cmd _ => cmd.traverses = true

theorem MCfg.step_quiet {beh} {m m' : MCfg} {p rest} (hst : m.stack = .prog p :: rest) (hp : p.quiet)
    (h : MCfg.step beh m = some m') : m'.lists = m.lists ∧ m'.nextId = m.nextId ∧ m'.wraps = m.wraps := by
  cases MCfg.step_inv h with
  | op hs ht =>
    cases hst.symm.trans hs
    cases ht.symm.trans hp
  | _ => simp [MCfg.call]

/-- `n` steps lead from `c` to `c'` and none of them executes a command -/
inductive SCfg.Quiet (beh : Beh) : Nat → SCfg → SCfg → Prop
  | done (c : SCfg) : Quiet beh 0 c c
  | step {n : Nat} {c c₁ c' : SCfg} {p rest} : c.stack = .prog p :: rest → p.quiet →
      SCfg.step beh c = some c₁ → Quiet beh n c₁ c' → Quiet beh (n + 1) c c'

theorem SCfg.Quiet.runN {beh n} {c c' : SCfg} (q : Quiet beh n c c') :
    SCfg.runN beh n c = (c', c'.stack.isEmpty) := by
  induction q with
  | done c => rfl
  | step _ _ st _ ih => simp only [SCfg.runN, st, ih]

theorem sim_step_quiet {beh} {m : MCfg} {s s' : SCfg} (h : Sim m s) {p srest}
    (hs : s.stack = .prog p :: srest) (hp : p.quiet) (st : SCfg.step beh s = some s') :
    ∃ m', MCfg.step beh m = some m' ∧ m'.lists = m.lists ∧ m'.nextId = m.nextId ∧ m'.wraps = m.wraps ∧
      Sim m' s' := by
  have hst := h.stack
  rw [hs] at hst
  generalize hm : m.stack = ms at hst
  cases hst with
  | cons hf _ =>
    cases hf
    rcases sim_lockstep beh h with ⟨_, hn⟩ | ⟨m', _, hm', hs', hsim⟩
    · cases hn.symm.trans st
    · cases hs'.symm.trans st
      obtain ⟨e1, e2, e3⟩ := MCfg.step_quiet hm hp hm'
      exact ⟨m', hm', e1, e2, e3, hsim e3⟩

theorem SCfg.Quiet.model {beh n} {s s' : SCfg} (q : Quiet beh n s s') : ∀ {m : MCfg}, Sim m s →
    (MCfg.runN beh n m).1.lists = m.lists ∧ (MCfg.runN beh n m).1.nextId = m.nextId ∧
    (MCfg.runN beh n m).1.wraps = m.wraps ∧ Sim (MCfg.runN beh n m).1 s' := by
  induction q with
  | done c => exact fun h => ⟨rfl, rfl, rfl, h⟩
  | step hs hp st _ ih =>
    intro m h
    obtain ⟨m', hm, e1, e2, e3, h'⟩ := sim_step_quiet h hs hp st
    simp only [MCfg.runN, hm]
    obtain ⟨i1, i2, i3, i4⟩ := ih h'
    exact ⟨i1.trans e1, i2.trans e2, i3.trans e3, i4⟩

namespace SCfg

/-- The one induction over a snapshot: the callbacks of the prefix `P` return at once with a verdict that
    lets the traversal go on.  In continuation form (what happens at `Q` takes `n` more steps to `c'`), so
    that the endings are composed by application and no run has to be split. -/
theorem quiet_prefix {beh : Beh} {l arg : Nat} {ho : Bool} {below : List SFrame} {Q : List Entry} {n c'}
    (c : SCfg) : ∀ (P snap : List Entry) (tr : List Ev) (st : List SFrame), snap = P ++ Q →
    (∀ e ∈ P, (c.lists l).present e.id = true) →
    (∀ e ∈ P, ∀ i, ∃ v, beh ⟨l, e.id, e.cb, arg, ho⟩ i = .ret v ∧ (ho && !v) = false) →
    (∀ st', Quiet beh n
      (seekCall beh { c with trace := (callsOf l arg ho P).reverse ++ tr, stack := st' } l Q arg ho below) c') →
    Quiet beh (P.length + n) (seekCall beh { c with trace := tr, stack := st } l snap arg ho below) c'
  | [], _, tr, st, rfl, _, _, q => by
    rw [List.length_nil, Nat.zero_add]
    exact q st
  | e :: es, _, tr, st, rfl, hp, hb, q => by
    obtain ⟨v, hv, hc⟩ := hb e (by simp) (countCalls tr e.cb)
    rw [List.cons_append, seekCall_cons (hp e (by simp)), hv, List.length_cons, Nat.add_right_comm]
    refine .step rfl trivial ((step_ret_iter rfl).trans (by rw [hc]; rfl)) ?_
    refine quiet_prefix c es _ _ _ rfl (fun x hx => hp x (by simp [hx])) (fun x hx => hb x (by simp [hx])) ?_
    simpa using q

theorem quiet_all (beh : Beh) (c : SCfg) (l arg : Nat) (ho : Bool) (k : Res → Prog) (rest : List SFrame)
    (hst : c.stack = .prog (.op (bif ho then .enum l arg else .invoke l arg) k) :: rest)
    (hb : ∀ e ∈ c.lists l, ∀ i, ∃ v, beh ⟨l, e.id, e.cb, arg, ho⟩ i = .ret v ∧ (ho && !v) = false) :
    Quiet beh ((c.lists l).length + 1) c
      { c with stack := .prog (k (MCfg.finishRes ho true)) :: rest,
               trace := .res (MCfg.finishRes ho true) :: ((callsOf l arg ho (c.lists l)).reverse ++ c.trace) } := by
  refine .step hst (by cases ho <;> rfl) (step_start hst) ?_
  exact quiet_prefix (n := 0) c (c.lists l) _ c.trace c.stack (List.append_nil _).symm
    (fun e he => SList.present_of_mem he) hb (fun _ => .done _)

theorem quiet_stop (beh : Beh) (c : SCfg) (l arg : Nat) (k : Res → Prog) (rest : List SFrame)
    (P : List Entry) (e : Entry) (Q : List Entry)
    (hst : c.stack = .prog (.op (.enum l arg) k) :: rest)
    (hl : c.lists l = P ++ e :: Q)
    (hb : ∀ x ∈ P, ∀ n, beh ⟨l, x.id, x.cb, arg, true⟩ n = .ret true)
    (he : ∀ n, beh ⟨l, e.id, e.cb, arg, true⟩ n = .ret false) :
    Quiet beh (P.length + 2) c
      { c with stack := .prog (k (.bool false)) :: rest,
               trace := .res (.bool false) :: ((callsOf l arg true (P ++ [e])).reverse ++ c.trace) } := by
  have hm : ∀ x ∈ P ++ e :: Q, (c.lists l).present x.id = true := fun x hx =>
    SList.present_of_mem (hl ▸ hx)
  refine .step hst rfl (step_enum hst) ?_
  refine quiet_prefix (n := 1) c P _ c.trace c.stack hl (fun x hx => hm x (by simp [hx]))
    (fun x hx i => ⟨true, hb x hx i, rfl⟩) (fun st' => ?_)
  rw [seekCall_cons (hm e (by simp)), he, callsOf_append, List.reverse_append]
  exact .step rfl trivial ((step_ret_iter rfl).trans rfl) (.done _)

end SCfg

end Evp
