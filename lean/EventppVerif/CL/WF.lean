import EventppVerif.CL.Seg
/-
  Well-formedness of one callback-list object.  `WF l L bound`: `L` is the chain of live nodes of `l`,
  read forwards from `head` and backwards from `tail`; `bound` is above every node id in it.
  A node is on the chain iff its generation is not `removedCounter` (`live`), and then it is at most
  `currentCounter` (`cnt`), which is below the modulus (`cur_lt`).  `m_ge : 2 ≤ M` is there for the wrap branch of
  `getNextCounter`: it leaves `currentCounter = 1`, which must again be below `M` (`WF.nextCounter`).
-/
namespace Evp

structure WF (l : CL) (L : List Nat) (bound : Nat) : Prop where
  nodup : L.Nodup
  fwd : Seg nextF l.heap l.head L none
  bwd : Seg prevF l.heap l.tail L.reverse none
  live : ∀ n, n ∈ L ↔ (l.heap n).counter ≠ 0
  cnt : ∀ n ∈ L, (l.heap n).counter ≤ l.cur
  lt : ∀ n ∈ L, n < bound
  cur_lt : l.cur < l.M
  m_ge : 2 ≤ l.M
  ub : l.ub = false

theorem WF.head_eq {l L b} (w : WF l L b) : l.head = L.head? := seg_head' w.fwd

theorem WF.tail_eq {l L b} (w : WF l L b) : l.tail = L.getLast? :=
  (seg_head' w.bwd).trans List.head?_reverse

theorem WF.mono {l L b b'} (w : WF l L b) (h : b ≤ b') : WF l L b' :=
  { w with lt := fun n hn => Nat.lt_of_lt_of_le (w.lt n hn) h }

end Evp
