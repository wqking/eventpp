import EventppVerif.CL.Sim
/-
  The removed nodes of a list object form an acyclic graph under `next` / `previous`.

  `doFreeNode` leaves the links of the node it removes untouched, so removed nodes keep stale
  `shared_ptr`s to other nodes.  Reference counting releases such garbage only if it has no cycle.
  Here: every operation writes only live nodes and the freshly allocated node (`Frame`), a node is
  removed only while its neighbours are live, hence an edge between two removed nodes always leads
  from the earlier removed node to the later removed one.  `RankedBy l rank B` records this with
  `rank` = removal time and `B` = the current time; `Ranked l` is preserved by every list
  operation (always through `Ranked.step`) and by every step of the Model machine, and it excludes
  cycles of removed nodes (`acyclic_of_ranked`).
-/
namespace Evp

/-- `a → b`: `b` is the `next` or the `previous` of `a` (one `shared_ptr` held by node `a`) -/
def CL.edge (l : CL) (a b : Nat) : Prop := (l.heap a).next = some b ∨ (l.heap a).prev = some b

/-- an edge between two removed nodes (`counter = removedCounter`) -/
def CL.gedge (l : CL) (a b : Nat) : Prop :=
  (l.heap a).counter = 0 ∧ (l.heap b).counter = 0 ∧ l.edge a b

/-- `rank` (removal time, below the current time `B`) strictly increases along every edge between
    two removed nodes -/
def RankedBy (l : CL) (rank : Nat → Nat) (B : Nat) : Prop :=
  (∀ a, rank a < B) ∧ ∀ a b, l.gedge a b → rank a < rank b

def Ranked (l : CL) : Prop := ∃ rank B, RankedBy l rank B

theorem default_node_counter (a : Nat) : ((({} : Heap)) a).counter = 0 := by
  rw [Store.empty_get]; rfl

theorem ranked_of_heap_empty {l : CL} (h : l.heap = {}) : Ranked l := by
  refine ⟨fun _ => 0, 1, fun _ => Nat.zero_lt_one, fun a b hg => ?_⟩
  have he := hg.2.2
  unfold CL.edge at he
  rw [h, Store.empty_get] at he
  rcases he with he | he <;> cases he

theorem Ranked.empty : Ranked {} := ranked_of_heap_empty rfl

/-- a non-empty path `a → … → b` all of whose nodes are removed, `→` being `next` or `previous` -/
inductive GPath (l : CL) : Nat → Nat → Prop
  | single {a b} : l.gedge a b → GPath l a b
  | cons {a b c} : l.gedge a b → GPath l b c → GPath l a c

theorem RankedBy.path_lt {l rank B} (h : RankedBy l rank B) {a b} (p : GPath l a b) : rank a < rank b := by
  induction p with
  | single e => exact h.2 _ _ e
  | cons e _ ih => exact Nat.lt_trans (h.2 _ _ e) ih

theorem acyclic_of_ranked {l : CL} (h : Ranked l) (a : Nat) : ¬ GPath l a a := by
  obtain ⟨rank, B, hr⟩ := h
  exact fun p => Nat.lt_irrefl _ (hr.path_lt p)

/-- the same for paths given as the list of their nodes: `IsGPath l a [a₁, …, a_k]` says
    `a → a₁ → … → a_k` with all nodes removed -/
def IsGPath (l : CL) : Nat → List Nat → Prop
  | _, [] => True
  | a, b :: r => l.gedge a b ∧ IsGPath l b r

theorem RankedBy.isGPath_lt {l rank B} (h : RankedBy l rank B) :
    ∀ {a : Nat} {p : List Nat}, IsGPath l a p → ∀ x ∈ p, rank a < rank x
  | _, [], _, x, hx => by cases hx
  | a, b :: r, hp, x, hx => by
    have hab := h.2 a b hp.1
    rcases List.mem_cons.mp hx with rfl | hx
    · exact hab
    · exact Nat.lt_trans hab (h.isGPath_lt hp.2 x hx)

theorem acyclic_of_ranked_list {l : CL} (h : Ranked l) (a : Nat) (p : List Nat) (hp : IsGPath l a p) :
    a ∉ p := by
  obtain ⟨rank, B, hr⟩ := h
  exact fun hm => Nat.lt_irrefl _ (hr.isGPath_lt hp a hm)

/-- The one way in which every operation keeps the ranking: every node that is removed afterwards,
    except possibly one node `n` (the node removed by the operation), is an unchanged node that was
    removed before, and the links of `n` lead to live nodes.  `n` gets the current time as its rank. -/
theorem Ranked.step {l l' : CL} (h : Ranked l) (n : Option Nat)
    (old : ∀ a, (l'.heap a).counter = 0 → n ≠ some a → (l.heap a).counter = 0 ∧ l'.heap a = l.heap a)
    (new : ∀ a, n = some a → ∀ x, l'.edge a x → (l'.heap x).counter ≠ 0) : Ranked l' := by
  obtain ⟨rank, B, hB, hr⟩ := h
  refine ⟨fun x => if n = some x then B else rank x, B + 1, fun a => ?_, fun a c ⟨ha, hc, he⟩ => ?_⟩
  · have := hB a
    show (if _ then B else rank a) < B + 1
    split <;> omega
  · show (if n = some a then B else rank a) < (if n = some c then B else rank c)
    by_cases han : n = some a
    · exact absurd hc (new a han c he)
    · obtain ⟨ha0, ea⟩ := old a ha han
      rw [if_neg han]
      split
      · exact hB a
      · next hcn =>
        refine hr a c ⟨ha0, (old c hc hcn).1, ?_⟩
        unfold CL.edge at he ⊢
        rwa [ea] at he

theorem Ranked.congr {l l' : CL} (h : Ranked l) (e : l'.heap = l.heap) : Ranked l' :=
  h.step none (fun a ha _ => by rw [e] at ha ⊢; exact ⟨ha, rfl⟩) (fun _ e => nomatch e)

theorem Ranked.frame {l l' id} (h : Ranked l) (f : Frame l l' id) : Ranked l' :=
  h.step none (fun a ha _ => ⟨(f.bwd a ha).1, f.fwd a (f.bwd a ha).1 (f.bwd a ha).2⟩) (fun _ e => nomatch e)

theorem remove_removed {l L b} (w : WF l L b) (h : Hd) :
    (∀ a, (l.heap a).counter = 0 → (l.remove h).1.heap a = l.heap a) ∧
    (∀ a, ((l.remove h).1.heap a).counter = 0 → (l.heap a).counter = 0 ∨ a = h) ∧
    ((l.heap h).counter ≠ 0 →
      ((l.remove h).1.heap h).next = (l.heap h).next ∧ ((l.remove h).1.heap h).prev = (l.heap h).prev ∧
      ∀ x, (l.remove h).1.edge h x → ((l.remove h).1.heap x).counter ≠ 0) := by
  unfold CL.remove
  split
  case isFalse hl => exact ⟨fun _ _ => rfl, fun _ ha => .inl ha, fun hn => absurd hn hl⟩
  rename_i hn
  dsimp only
  have hL := (w.live h).mpr hn
  have hlive : ∀ x, l.edge h x → (l.heap x).counter ≠ 0 := fun x hx =>
    (w.live x).mp (hx.elim (w.next_mem hL) (w.prev_mem hL))
  obtain ⟨hnh, hph⟩ := w.no_self hL
  have f3 : ((l.freeNode h).heap h).next = (l.heap h).next := by rw [freeNode_next, if_neg hph]
  have f4 : ((l.freeNode h).heap h).prev = (l.heap h).prev := by rw [freeNode_prev, if_neg hnh]
  refine ⟨fun a ha => ?_, fun a ha => ?_, fun _ => ⟨f3, f4, fun x hx => ?_⟩⟩
  · refine node_eq ?_ ?_ ?_ (freeNode_cb l h a)
    · rw [freeNode_next, if_neg (fun e => hlive a (.inr e) ha)]
    · rw [freeNode_prev, if_neg (fun e => hlive a (.inl e) ha)]
    · rw [freeNode_counter, if_neg (fun e : a = h => hn (e ▸ ha))]
  · rw [freeNode_counter] at ha
    split at ha
    · exact .inr ‹_›
    · exact .inl ha
  · unfold CL.edge at hx
    rw [f3, f4] at hx
    have hxh : x ≠ h := by rintro rfl; exact hx.elim hnh hph
    rw [freeNode_counter, if_neg hxh]
    exact hlive x hx

theorem remove_ranked {l L b} (w : WF l L b) (hr : Ranked l) (h : Hd) : Ranked (l.remove h).1 := by
  obtain ⟨f1, f2, f3⟩ := remove_removed w h
  by_cases hl : (l.heap h).counter = 0
  · exact hr.congr (by unfold CL.remove; rw [if_neg (fun hn => hn hl)])
  · refine hr.step (some h) (fun a ha hne => ?_) (fun a e => by cases e; exact (f3 hl).2.2)
    have h0 := (f2 a ha).resolve_right (fun e => hne (e ▸ rfl))
    exact ⟨h0, f1 a h0⟩

/-- `cloneFrom` links one fresh node after the other at the back (`cloneChain_step`) -/
theorem cloneChain_ranked : ∀ (cbs : List Cb) {l : CL} {SL : SList} {b : Nat}, Rep l SL b → 1 ≤ l.cur → Ranked l →
    ∀ {l' : CL}, l'.heap = (cloneChain cbs b 1 l.heap l.tail).1 → Ranked l'
  | [], _, _, _, _, _, hr, _, e => hr.congr e
  | cb :: rest, l, _, b, r, hc, hr, _, e => by
    have k := r.wf.linkBack_linked (r.fresh b (Nat.le_refl b)) cb 1
    rw [cloneChain_step r cb] at e
    exact cloneChain_ranked rest (rep_linkBack r Nat.one_ne_zero hc) (k.cur ▸ hc)
      (hr.frame (.of_linked k (by rw [List.append_nil]; exact r.wf) Nat.one_ne_zero)) e

theorem clone_ranked {l SL b} (r : Rep l SL b) : Ranked (l.clone (b + 1) b) :=
  cloneChain_ranked _ (Rep.init (c := 1) b r.wf.m_ge r.wf.m_ge) (Nat.le_refl 1) (ranked_of_heap_empty rfl) rfl

/-- `Ranked` is one of the properties that every operation on a list object keeps -/
theorem ranked_stable : OpStable false (fun l _ _ => Ranked l) where
  mono := fun h _ => h
  added := fun _ A _ h => h.frame A.frame
  remove := fun r h hd => remove_ranked r.wf h hd
  cur := fun h _ _ => h.congr rfl

theorem ranked_apply {m : MCfg} (h : MInv m) (hr : ∀ l, Ranked (m.lists l)) (busy : Nat → Bool) (cmd : Cmd) :
    ∀ l, Ranked ((m.apply busy cmd).1.lists l) := by
  -- only copy / move / swap read `busy`; any other command acts as it does when every list is being traversed
  have key : m.apply busy cmd = m.apply (fun _ => true) cmd → ∀ l, Ranked ((m.apply busy cmd).1.lists l) :=
    fun e l => e ▸ (MCfg.apply_stable_abs h _ cmd).2 ranked_stable rfl (hr l)
  cases cmd with
  | copyAssign dst src =>
    simp only [MCfg.apply]
    split
    · exact hr
    · exact (h src).elim fun _ r => forall_upd hr dst (clone_ranked r)
  | moveAssign dst src =>
    simp only [MCfg.apply]
    split
    · exact hr
    · exact forall_upd (forall_upd hr dst (hr src)) src (ranked_of_heap_empty rfl)
  | swap a b =>
    simp only [MCfg.apply]
    split
    · exact hr
    · exact forall_upd (forall_upd hr a (hr b)) b (hr a)
  | _ => exact key rfl

theorem ranked_step (beh : Beh) {m m' : MCfg} (h : MInv m) (hr : ∀ l, Ranked (m.lists l))
    (st : MCfg.step beh m = some m') : ∀ l, Ranked (m'.lists l) := by
  rcases MCfg.step_cases st with ⟨hl, _, _⟩ | ⟨busy, cmd, hl, _, _⟩
  · intro l; rw [hl]; exact hr l
  · intro l; rw [hl]; exact ranked_apply h hr busy cmd l

theorem ranked_init (m : MCfg) (h : m.lists = {}) : ∀ l, Ranked (m.lists l) := by
  intro l
  rw [h, Store.empty_get]
  exact Ranked.empty

end Evp
