/-
  EventQueue::DisableQueueNotify as a counted registration (D13).

  The concurrent model (Conc/Queue.lean) has `nc`, "the number of live DisableQueueNotify objects":
  `dqnBegin` increments it, `dqnEnd` decrements it.  That reading is right only if every live object is
  counted exactly once, whichever special member created it.  This file models the class itself:
  objects hold a registration or not, and the special members are parameters of the model, so that the
  behaviour of the class as it was (implicit copy: the copy shares the original's registration) and as it
  is (the copy constructor registers the copy) are both instances.
-/
namespace Evp.Dqn

/-- how a copy is made -/
inductive CopyKind
  | shares      -- implicit copy: the pointer is copied, the counter is not touched (the code as it was)
  | registers   -- the copy constructor increments the counter (the code as it is)
deriving DecidableEq, Repr

inductive Op
  | construct           -- DisableQueueNotify x(&queue)
  | copy                -- DisableQueueNotify y(x) for some live x
  | destroy             -- the destructor of some live object
deriving DecidableEq, Repr

structure St where
  /-- the library's counter (an `int`) -/
  nc : Int := 0
  /-- number of live objects -/
  live : Nat := 0
deriving DecidableEq, Repr

/-- operations that need a live object are not enabled without one -/
def enabled (s : St) : Op → Bool
  | .construct => true
  | .copy => decide (0 < s.live)
  | .destroy => decide (0 < s.live)

def step (k : CopyKind) (s : St) : Op → St
  | .construct => { nc := s.nc + 1, live := s.live + 1 }
  | .copy => if 0 < s.live then
      { nc := (match k with | .shares => s.nc | .registers => s.nc + 1), live := s.live + 1 } else s
  | .destroy => if 0 < s.live then { nc := s.nc - 1, live := s.live - 1 } else s

def run (k : CopyKind) : St → List Op → St
  | s, [] => s
  | s, op :: r => run k (step k s op) r

/-- the reading of `nc` the concurrent model relies on -/
def Counts (s : St) : Prop := s.nc = (s.live : Int)

theorem step_counts (s : St) (op : Op) (h : Counts s) : Counts (step .registers s op) := by
  unfold Counts at *
  -- an operation that is not enabled changes nothing; the others move `nc` and `live` by the same amount
  fun_cases step .registers s op
  case case3 | case5 => exact h
  all_goals dsimp only; omega

/-- with a copy constructor that registers the copy, after ANY history of constructions, copies and
    destructions the counter is the number of live objects: in particular notification is enabled
    (`nc = 0`) exactly when no object is alive -/
theorem counts_run (ops : List Op) (s : St) (h : Counts s) : Counts (run .registers s ops) := by
  induction ops generalizing s with
  | nil => exact h
  | cons op r ih => exact ih _ (step_counts s op h)

end Evp.Dqn
