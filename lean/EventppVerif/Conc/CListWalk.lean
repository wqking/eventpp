import EventppVerif.CL.OpLemmas
import EventppVerif.Conc.CListStep
/-
  The list object of the concurrent callback-list model (Conc/CList.lean), seen from one traversal
  and from one critical section.  In the concurrent model a node id is allocated at the `draw` step
  and linked later, after other threads' draws and links, so the id that is linked is no longer the
  bound `b` of `Rep l SL b`: linking is treated for an arbitrary unlinked id below the bound
  (`Linking`), and the structural traversal invariant (`WalkV`) is stated relative to a set `P` of
  pending (allocated, not yet linked) ids.  `Kept` collects what a step on the list object has to
  keep for the invariant of every thread.
-/
namespace Evp

theorem Rep.entry_mem {l SL b n} (r : Rep l SL b) (hn : (l.heap n).counter ≠ 0) :
    (⟨n, (l.heap n).cb⟩ : Entry) ∈ SL := by
  obtain ⟨e, he, rfl⟩ := List.mem_map.mp ((r.wf.live n).mpr hn)
  rw [r.cbs e he]; exact he

def liveIn (h : Heap) (W : List Nat) : List Nat := W.filter (fun v => (h v).counter != 0)

/-- The structural invariant of one traversal, relative to a set `P` of pending ids.
    `WalkV h L b P V G ex n`: a traversal stands on node `n`; `V` are the nodes it has called so far,
    `G` a set of nodes it owes a call (the nodes in the list when it started; `[]` if one is not
    interested).  Following `next` from `n` walks a duplicate-free list `R` of removed nodes (counter
    0, allocated, not pending — their links are frozen) and then enters a suffix `S` of the live chain
    `L`.  No node called so far lies on `R ++ S`, except that `n` itself may (flag `ex`: the
    traversal has already dealt with `n`).  Every owed node that is still in the list has been called
    or lies ahead on `S` (strictly ahead if `ex`).  The called nodes that are still in the list were
    called in list order: they form a sublist of the part `Pre` of the chain before `S` (plus `n` if it
    is the head of `S` and has been dealt with).
    The proofs open it in the order of the conjuncts, as `⟨v1, v2, g1, R, S, h1, …, h6, Pre, p1, p2⟩`:
    three conjuncts about `V` and `G` alone, six about `R S`, two about `Pre`.

    This is the concurrent twin of `Ahead` (CL/Ahead.lean): the same shape, removed nodes and then a
    suffix of the chain, and the same lemmas on explicit `R S` (`path_chain`, `path_freeNode`,
    `split_insert`).  It cannot be `Ahead` itself.  `Ahead` hides `R` and `S` behind its `∃` and shows
    only the live nodes ahead, while the conjuncts about `V`, `G` and `Pre` speak of `R ++ S`, of `S` and
    of `R = []`.  And `Ahead` has no pending set: there the linked node is the fresh id `b`, above every
    removed node; here it was allocated earlier, and `¬ P r` is what keeps a removed node from being
    the one that is linked (and so written) next. -/
def WalkV (h : Heap) (L : List Nat) (b : Nat) (P : Nat → Prop) (V G : List Nat) (ex : Bool) (n : Nat) : Prop :=
  (∀ v ∈ V, v < b ∧ ¬ P v) ∧ V.Nodup ∧ (∀ x ∈ G, x < b ∧ ¬ P x) ∧
  ∃ R S : List Nat, S <:+ L ∧ (∀ r ∈ R, (h r).counter = 0 ∧ r < b ∧ ¬ P r) ∧ R.Nodup ∧
    Seg nextF h (some n) R S.head? ∧ (∀ v ∈ V, v ∈ R ++ S → ex = true ∧ v = n) ∧
    (∀ x ∈ G, (h x).counter ≠ 0 → x ∈ V ∨ (x ∈ S ∧ ¬ (ex = true ∧ x = n))) ∧
    ∃ Pre, Pre ++ S = L ∧ (liveIn h V).Sublist (Pre ++ (if ex = true ∧ R = [] then [n] else []))

theorem liveIn_congr {h h' : Heap} {W : List Nat} (hc : ∀ v ∈ W, (h' v).counter = (h v).counter) :
    liveIn h' W = liveIn h W := by
  unfold liveIn
  exact List.filter_congr (fun v hv => by rw [hc v hv])

theorem liveIn_append (h : Heap) (A B : List Nat) : liveIn h (A ++ B) = liveIn h A ++ liveIn h B := by
  unfold liveIn; exact List.filter_append ..

theorem liveIn_freeNode (l : CL) (x : Nat) (W : List Nat) :
    liveIn (l.freeNode x).heap W = (liveIn l.heap W).filter (fun v => v != x) := by
  unfold liveIn
  rw [List.filter_filter]
  apply List.filter_congr
  intro v _
  rw [freeNode_counter]
  by_cases hv : v = x <;> simp [hv]

theorem WalkV.mono {h L b b' P P' V G ex n} (w : WalkV h L b P V G ex n) (hb : b ≤ b')
    (hP : ∀ x, x < b → P' x → P x) : WalkV h L b' P' V G ex n := by
  obtain ⟨v1, v2, g1, R, S, h1, h2, h3, h4, h5, h6, h7⟩ := w
  refine ⟨fun v hv => ⟨Nat.lt_of_lt_of_le (v1 v hv).1 hb, fun hp => (v1 v hv).2 (hP v (v1 v hv).1 hp)⟩, v2,
    fun v hv => ⟨Nat.lt_of_lt_of_le (g1 v hv).1 hb, fun hp => (g1 v hv).2 (hP v (g1 v hv).1 hp)⟩,
    R, S, h1, fun r hr => ?_, h3, h4, h5, h6, h7⟩
  obtain ⟨a, b1, c⟩ := h2 r hr
  exact ⟨a, Nat.lt_of_lt_of_le b1 hb, fun hp => c (hP r b1 hp)⟩

/-- the traversal passes over `n` without calling it; allowed only if `n` is not owed a call -/
theorem WalkV.ex_true {h L b P V G ex n} (w : WalkV h L b P V G ex n)
    (hn : n ∈ G → (h n).counter ≠ 0 → n ∈ V) : WalkV h L b P V G true n := by
  obtain ⟨v1, v2, g1, R, S, h1, h2, h3, h4, h5, h6, Pre, p1, p2⟩ := w
  refine ⟨v1, v2, g1, R, S, h1, h2, h3, h4, fun v hv hm => ⟨rfl, (h5 v hv hm).2⟩, fun x hx hl => ?_,
    Pre, p1, ?_⟩
  · rcases h6 x hx hl with hv | ⟨hs, _⟩
    · exact Or.inl hv
    · by_cases hxn : x = n
      · subst hxn; exact Or.inl (hn hx hl)
      · exact Or.inr ⟨hs, fun hc => hxn hc.2⟩
  · refine p2.trans (List.Sublist.append_left ?_ Pre)
    by_cases hR : R = []
    · by_cases hex : ex = true
      · simp [hR, hex]
      · simp [hR, hex]
    · simp [hR]

theorem walkV_head {l SL b n G} {P : Nat → Prop} (r : Rep l SL b) (hh : l.head = some n)
    (hG : ∀ x ∈ G, x < b ∧ ¬ P x) : WalkV l.heap SL.ids b P [] G false n := by
  refine ⟨by simp, by simp, hG, [], SL.ids, List.suffix_refl _, by simp, by simp, ?_, by simp, ?_,
    [], rfl, by simp [liveIn]⟩
  · show some n = SL.ids.head?
    rw [← hh, r.wf.head_eq]
  · intro x _ hl
    exact Or.inr ⟨(r.wf.live x).mpr hl, by simp⟩

theorem walkV_next {l SL b n m V G} {P : Nat → Prop} (r : Rep l SL b)
    (w : WalkV l.heap SL.ids b P V G true n) (hm : (l.heap n).next = some m) :
    WalkV l.heap SL.ids b P V G false m := by
  obtain ⟨v1, v2, g1, R, S, h1, h2, h3, h4, h5, h6, Pre, p1, p2⟩ := w
  have hm' : nextF (l.heap n) = some m := hm
  refine ⟨v1, v2, g1, ?_⟩
  cases R with
  | nil =>
    -- `n` is the head of `S`: the traversal moves along the live chain
    obtain ⟨T, rfl⟩ : ∃ T, S = n :: T := by
      cases S with
      | nil => cases h4
      | cons x T => cases h4; exact ⟨T, rfl⟩
    have hnT : n ∉ T := (List.nodup_cons.mp (nodup_suffix h1 r.wf.nodup)).1
    have hT := (r.wf.suffix_seg h1).2
    rw [hm'] at hT
    refine ⟨[], T, (List.suffix_cons n T).trans h1, nofun, .nil, seg_head' hT, fun v hv hvT => ?_,
      fun x hx hl => ?_, Pre ++ [n], by rw [← p1]; simp, by simpa using p2⟩
    · exact absurd ((h5 v hv (List.mem_cons_of_mem _ hvT)).2 ▸ hvT) hnT
    · exact (h6 x hx hl).imp_right fun ⟨hs, hne⟩ =>
        ⟨(List.mem_cons.mp hs).resolve_left fun e => hne ⟨rfl, e⟩, by simp⟩
  | cons r0 R' =>
    -- `n` is a removed node: the traversal follows its frozen link
    obtain ⟨hn, hR'⟩ := h4
    cases hn
    rw [hm'] at hR'
    have hnd := List.nodup_cons.mp h3
    have hnS : n ∉ S := fun hmem => (r.suffix_mem h1 hmem).1 (h2 n (List.mem_cons_self ..)).1
    refine ⟨R', S, h1, fun x hx => h2 x (List.mem_cons_of_mem _ hx), hnd.2, hR', fun v hv hmem => ?_,
      fun x hx hl => (h6 x hx hl).imp_right fun ⟨hs, _⟩ => ⟨hs, by simp⟩, Pre, p1, by simpa using p2⟩
    have := (h5 v hv (List.mem_cons_of_mem _ hmem)).2
    rw [this] at hmem
    exact ((List.mem_append.mp hmem).elim hnd.1 hnS).elim

theorem seg_start_mem {h : Heap} {n : Nat} {R S : List Nat} (hs : Seg nextF h (some n) R S.head?) :
    n ∈ R ++ S := by
  cases R with
  | nil => exact List.mem_of_head? (Eq.symm hs)
  | cons r0 R' => exact List.mem_append_left _ (Option.some.inj hs.1 ▸ List.mem_cons_self ..)

theorem walkV_node {l SL b n V G ex} {P : Nat → Prop} (r : Rep l SL b) (hP : ∀ x, P x → (l.heap x).counter = 0)
    (w : WalkV l.heap SL.ids b P V G ex n) : n < b ∧ ¬ P n := by
  obtain ⟨_, _, _, R, S, h1, h2, _, h4, _⟩ := w
  rcases List.mem_append.mp (seg_start_mem h4) with hr | hs
  · exact (h2 n hr).2
  · have := r.suffix_mem h1 hs
    exact ⟨this.2.1, fun hp => this.1 (hP n hp)⟩

theorem walkV_visit {l SL b n V G} {P : Nat → Prop} (r : Rep l SL b) (hP : ∀ x, P x → (l.heap x).counter = 0)
    (w : WalkV l.heap SL.ids b P V G false n) : WalkV l.heap SL.ids b P (V ++ [n]) G true n := by
  have hn : n < b ∧ ¬ P n := walkV_node r hP w
  obtain ⟨v1, v2, g1, R, S, h1, h2, h3, h4, h5, h6, Pre, p1, p2⟩ := w
  have hnV : n ∉ V := fun hv => Bool.noConfusion (h5 n hv (seg_start_mem h4)).1
  refine ⟨?_, ?_, g1, R, S, h1, h2, h3, h4, ?_, ?_, Pre, p1, ?_⟩
  · intro v hv
    rcases List.mem_append.mp hv with hv | hv
    · exact v1 v hv
    · cases List.mem_singleton.mp hv; exact hn
  · exact List.nodup_append.mpr ⟨v2, by simp, fun a ha c hc e =>
      hnV (List.mem_singleton.mp hc ▸ e ▸ ha)⟩
  · intro v hv hm
    rcases List.mem_append.mp hv with hv | hv
    · exact Bool.noConfusion (h5 v hv hm).1
    · exact ⟨rfl, List.mem_singleton.mp hv⟩
  · intro x hx hl
    rcases h6 x hx hl with hv | ⟨hs, _⟩
    · exact Or.inl (List.mem_append_left _ hv)
    · by_cases hxn : x = n
      · exact Or.inl (by simp [hxn])
      · exact Or.inr ⟨hs, fun hc => hxn hc.2⟩
  · -- order: the node just called is the head of `S` (then it extends the sublist) or removed
    rw [liveIn_append]
    have p2' : (liveIn l.heap V).Sublist Pre := by simpa using p2
    cases R with
    | nil =>
      simp only [and_self, if_true]
      exact p2'.append List.filter_sublist
    | cons r0 R' =>
      have hdead : (l.heap n).counter = 0 := Option.some.inj h4.1 ▸ (h2 r0 (List.mem_cons_self ..)).1
      have : liveIn l.heap [n] = [] := by simp [liveIn, hdead]
      rw [this]
      simpa using p2'

/-- what the invariant says in plain terms: the bounded walk from `n` is `R ++ S` -/
theorem walkV_chain {l SL b n V G ex} {P : Nat → Prop} (r : Rep l SL b) (w : WalkV l.heap SL.ids b P V G ex n) :
    n < b ∧ ∃ R S : List Nat, chainOf l.heap (b + 1) (some n) = R ++ S ∧
      Seg nextF l.heap (some n) (R ++ S) none ∧ (R ++ S).Nodup ∧ (R ++ S).head? = some n ∧
      (∀ x ∈ R ++ S, x < b) ∧ (∀ x ∈ R, (l.heap x).counter = 0) ∧ S <:+ SL.ids := by
  obtain ⟨_, _, _, R, S, h1, h2, h3, h4, _⟩ := w
  obtain ⟨hnd, hlt, hseg, hch⟩ := path_chain r h1 (fun x hx => ⟨(h2 x hx).1, (h2 x hx).2.1⟩) h3 h4
  exact ⟨hlt n (seg_start_mem h4), R, S, hch, hseg, hnd, (seg_head' hseg).symm, hlt, fun x hx => (h2 x hx).1, h1⟩

/-- at the last node (`next` is null) every owed node still in the list has been called -/
theorem walkV_last {l SL b n V G} {P : Nat → Prop} (r : Rep l SL b) (w : WalkV l.heap SL.ids b P V G true n)
    (hn : (l.heap n).next = none) : ∀ x ∈ G, (l.heap x).counter ≠ 0 → x ∈ V := by
  obtain ⟨_, _, _, R, S, h1, _, _, h4, _, h6, _⟩ := w
  intro x hx hl
  refine (h6 x hx hl).resolve_right fun ⟨hs, hne⟩ => hne ⟨rfl, ?_⟩
  -- nothing follows `n`: the walk `R ++ S` from `n` is `[n]`
  have hseg : Seg nextF l.heap (some n) (R ++ S) none := seg_append.mpr ⟨_, h4, r.wf.suffix_seg h1⟩
  have hx' : x ∈ R ++ S := List.mem_append_right _ hs
  cases hW : R ++ S with
  | nil => rw [hW] at hx'; cases hx'
  | cons a rest =>
    rw [hW] at hseg hx'
    obtain ⟨e, hrest⟩ := hseg
    cases e
    have : nextF (l.heap n) = none := hn
    rw [this] at hrest
    cases rest with
    | nil => exact List.mem_singleton.mp hx'
    | cons y _ => cases hrest.1

theorem walkV_ord {l : CL} {SL : SList} {b n V G ex} {P : Nat → Prop} (w : WalkV l.heap SL.ids b P V G ex n) :
    (liveIn l.heap V).Sublist SL.ids := by
  obtain ⟨_, _, _, R, S, _, _, _, h4, _, _, Pre, p1, p2⟩ := w
  refine p2.trans (p1 ▸ List.Sublist.append_left ?_ Pre)
  split
  · next hc =>
    rw [hc.2] at h4
    exact List.singleton_sublist.mpr (List.mem_of_head? (Eq.symm h4))
  · exact List.nil_sublist _

/-- what one step on the list object means for the invariant of any thread: the generation counter
    and the allocation bound only grow, no allocated id becomes pending, traversal positions and the
    order of invocation records survive -/
structure Kept (l : CL) (L : List Nat) (b : Nat) (P : Nat → Prop) (l' : CL) (L' : List Nat) (b' : Nat)
    (P' : Nat → Prop) : Prop where
  cur : l.cur ≤ l'.cur
  bound : b ≤ b'
  pend : ∀ x, x < b → P' x → P x
  walk : ∀ V G ex n, WalkV l.heap L b P V G ex n → WalkV l'.heap L' b' P' V G ex n
  ord : ∀ W, (∀ v ∈ W, v < b ∧ ¬ P v) → (liveIn l.heap W).Sublist L → (liveIn l'.heap W).Sublist L'

theorem Kept.of_heap {l l' : CL} {L : List Nat} {b b' : Nat} {P P' : Nat → Prop} (hh : l'.heap = l.heap)
    (hc : l.cur ≤ l'.cur) (hb : b ≤ b') (hP : ∀ x, x < b → P' x → P x) : Kept l L b P l' L b' P' :=
  ⟨hc, hb, hP, fun _ _ _ _ w => hh ▸ w.mono hb hP, fun _ _ ho => hh ▸ ho⟩

/-- `l'`, `SL'` are `l`, `SL` after a critical section has linked the allocated, so far unlinked node
    `id`, with callback `cb` and generation `c`, somewhere into the chain -/
structure Linking (l : CL) (SL : SList) (b id : Nat) (cb : Cb) (c : Nat) (l' : CL) (SL' : SList) : Prop where
  rep : Rep l' SL' b
  cur : l'.cur = l.cur
  counter : ∀ a, (l'.heap a).counter = if a = id then c else (l.heap a).counter
  cb : ∀ a, (l'.heap a).cb = if a = id then cb else (l.heap a).cb
  /-- the links of removed nodes are not written -/
  frozen : ∀ a, (l.heap a).counter = 0 → a ≠ id → (l'.heap a).next = (l.heap a).next
  ids : ∃ A B, SL.ids = A ++ B ∧ SL'.ids = A ++ id :: B

theorem Linking.sublist {l SL b id cb c l' SL'} (k : Linking l SL b id cb c l' SL') : SL.ids.Sublist SL'.ids := by
  obtain ⟨A, B, e, e'⟩ := k.ids
  rw [e, e']
  exact List.Sublist.append_left (List.sublist_cons_self id B) A

/-- The linked `id` is pending, hence none of the removed nodes `R`, the called nodes `V` or the owed
    nodes `G`: their counters and the frozen links are as before.  `split_insert` splits the new chain
    around the old split point: `S` keeps its head, and `S` and `Pre` each gain at most `id`. -/
theorem Linking.walkV {l SL b id cb c l' SL'} (k : Linking l SL b id cb c l' SL') {P : Nat → Prop}
    {V G ex n} (hid : P id) (w : WalkV l.heap SL.ids b P V G ex n) : WalkV l'.heap SL'.ids b P V G ex n := by
  obtain ⟨v1, v2, g1, R, S, h1, h2, h3, h4, h5, h6, Pre, p1, p2⟩ := w
  obtain ⟨A, B, e, e'⟩ := k.ids
  obtain ⟨Pre', S', s1, s5, s2, i1, -⟩ := split_insert id (p1.trans e)
  rw [← e'] at s1
  have hcnt : ∀ a, a ≠ id → (l'.heap a).counter = (l.heap a).counter := fun a ha => (k.counter a).trans (if_neg ha)
  have hRid : ∀ r ∈ R, r ≠ id := fun r hr e => (h2 r hr).2.2 (e ▸ hid)
  have hVid : ∀ v ∈ V, v ≠ id := fun v hv e => (v1 v hv).2 (e ▸ hid)
  refine ⟨v1, v2, g1, R, S', ⟨Pre', s1⟩, fun r hr => ?_, h3, ?_, ?_, ?_, Pre', s1, ?_⟩
  · rw [hcnt r (hRid r hr)]; exact h2 r hr
  · rw [s2]
    exact (seg_congr (fun a ha => k.frozen a (h2 a ha).1 (hRid a ha))).mpr h4
  · intro v hv hm
    apply h5 v hv
    rcases List.mem_append.mp hm with hm | hm
    · exact List.mem_append_left _ hm
    · exact List.mem_append_right _ ((i1.mem hm).resolve_left (hVid v hv))
  · intro x hx hl
    rw [hcnt x fun e => (g1 x hx).2 (e ▸ hid)] at hl
    exact (h6 x hx hl).imp_right fun ⟨hs, hne⟩ => ⟨i1.subset hs, hne⟩
  · rw [liveIn_congr (fun v hv => hcnt v (hVid v hv))]
    exact p2.trans (List.Sublist.append_right s5 _)

theorem Linking.kept {l SL b id cb c l' SL'} (k : Linking l SL b id cb c l' SL') {P P' : Nat → Prop}
    (hid : P id) (hPP : ∀ x, P' x → P x) : Kept l SL.ids b P l' SL'.ids b P' := by
  refine ⟨Nat.le_of_eq k.cur.symm, Nat.le_refl _, fun x _ => hPP x, fun _ _ _ _ w => (k.walkV hid w).mono (Nat.le_refl b) (fun x _ => hPP x),
    fun W hW ho => ?_⟩
  rw [liveIn_congr (fun v hv => (k.counter v).trans (if_neg fun (e : v = id) => (hW v hv).2 (e ▸ hid)))]
  exact ho.trans k.sublist

theorem Linking.of_linked {l l' : CL} {SL SL' : SList} {b id cb c : Nat} {A B : List Nat}
    (k : Linked l l' id cb c A B) (i : Inserted SL SL' id cb A B) (r : Rep l SL b) (hidb : id < b)
    (hid : (l.heap id).counter = 0) (hc0 : c ≠ 0) (hc : c ≤ l.cur) : Linking l SL b id cb c l' SL' :=
  ⟨k.rep i r hid hc0 hc (Nat.le_refl b) hidb, k.cur, k.counter, k.cb,
    fun _ h0 hne => k.frozen (i.ids ▸ r.wf) h0 hne, A, B, i.ids, i.ids'⟩

/-- the Spec operation of the three calls whose critical section is `linkOf` (Conc/CListStep.lean) -/
def specLink (SL : SList) (k : Nat) (cb : Cb) (bf : Hd) (id : Nat) : SList :=
  if k = 0 then SL.append id cb else if k = 1 then SL.prepend id cb else SL.insert id cb bf

theorem linking_linkOf {l SL b k cb bf id c} (r : Rep l SL b) (hidb : id < b)
    (hid : (l.heap id).counter = 0) (hc0 : c ≠ 0) (hc : c ≤ l.cur) :
    Linking l SL b id cb c (linkOf l k cb bf id c) (specLink SL k cb bf id) := by
  have back : Linking l SL b id cb c (l.linkBack id cb c) (SL.append id cb) :=
    .of_linked (r.wf.linkBack_linked hid cb c) (SL.append_inserted id cb) r hidb hid hc0 hc
  unfold linkOf specLink
  by_cases h0 : k = 0
  · simp only [if_pos h0]
    exact back
  · simp only [if_neg h0]
    by_cases h1 : k = 1
    · simp only [if_pos h1]
      exact .of_linked (r.wf.linkFront_linked hid cb c) (SL.prepend_inserted id cb) r hidb hid hc0 hc
    · simp only [if_neg h1]
      refine r.insert_ind (motive := Linking l SL b id cb c) id cb bf (fun hp => ?_) back
      obtain ⟨A, Q, hAQ⟩ := List.append_of_mem (SList.present_iff.mp hp)
      exact .of_linked ((hAQ ▸ r.wf).linkBefore_linked hid cb c) (SList.insert_inserted id cb hAQ r.wf.nodup)
        r hidb hid hc0 hc

theorem linkBack_counter' {l SL b id cb c} (r : Rep l SL b) (hid : (l.heap id).counter = 0) (a : Nat) :
    ((l.linkBack id cb c).heap a).counter = (if a = id then c else (l.heap a).counter) ∧
    ((l.linkBack id cb c).heap a).cb = (if a = id then cb else (l.heap a).cb) :=
  have k := r.wf.linkBack_linked hid cb c
  ⟨k.counter a, k.cb a⟩

theorem linkFront_counter' {l SL b id cb c} (r : Rep l SL b) (hid : (l.heap id).counter = 0) (a : Nat) :
    ((l.linkFront id cb c).heap a).counter = (if a = id then c else (l.heap a).counter) ∧
    ((l.linkFront id cb c).heap a).cb = (if a = id then cb else (l.heap a).cb) :=
  have k := r.wf.linkFront_linked hid cb c
  ⟨k.counter a, k.cb a⟩

/-- a traversal position survives the removal of a node: if the traversal was about to enter the
    live chain at `h`, then `h` joins the removed nodes ahead of it; otherwise `h` just leaves the
    chain ahead of or behind it -/
theorem walkV_freeNode {l SL b h V G ex n} {P : Nat → Prop} (r : Rep l SL b)
    (hP0 : ∀ x, P x → (l.heap x).counter = 0) (hp : SL.present h = true)
    (w : WalkV l.heap SL.ids b P V G ex n) : WalkV (l.freeNode h).heap (SL.erase h).ids b P V G ex n := by
  obtain ⟨v1, v2, g1, R, S, h1, h2, h3, h4, h5, h6, Pre, p1, p2⟩ := w
  have hmem := SList.present_iff.mp hp
  have hlive : (l.heap h).counter ≠ 0 := (r.wf.live h).mp hmem
  have howed : ∀ x ∈ G, ((l.freeNode h).heap x).counter ≠ 0 →
      x ≠ h ∧ (x ∈ V ∨ (x ∈ S ∧ ¬ (ex = true ∧ x = n))) := by
    intro x hx hl
    rw [freeNode_counter] at hl
    by_cases hxh : x = h
    · rw [if_pos hxh] at hl; exact absurd rfl hl
    · rw [if_neg hxh] at hl; exact ⟨hxh, h6 x hx hl⟩
  have hord := p2.filter (fun v => v != h)
  rw [List.filter_append] at hord
  rw [SList.ids_erase, ← p1]
  refine ⟨v1, v2, g1, ?_⟩
  simp only [liveIn_freeNode]
  obtain ⟨R', S', d, nd, sg, ⟨rfl, n4, rfl⟩ | ⟨hS, rfl, rfl⟩⟩ :=
    path_freeNode r hmem ⟨r.wf.lt h hmem, fun hp => hlive (hP0 h hp)⟩ h1 h2 h3 h4
  · have n3 : h ∉ Pre := (nodup_split (p1 ▸ r.wf.nodup)).2.2.1
    rw [filter_ne_split n3 n4]
    refine ⟨_, S', List.suffix_append _ _, d, nd, sg, ?_, ?_, Pre, rfl, ?_⟩
    · intro v hv hm
      exact h5 v hv (by simpa using hm)
    · intro x hx hl
      obtain ⟨hxh, ho⟩ := howed x hx hl
      exact ho.imp_right fun ⟨hs, hne⟩ => ⟨(List.mem_cons.mp hs).resolve_left hxh, hne⟩
    · -- order: if `n` was the extra element it is `h` and is filtered out
      rw [filter_ne_self n3] at hord
      refine hord.trans ?_
      rw [if_neg (by simp : ¬ (ex = true ∧ R ++ [h] = []))]
      refine List.Sublist.append_left ?_ Pre
      split
      · next hc =>
        have : n = h := Option.some.inj (by have := h4; rw [hc.2] at this; exact this)
        simp [this]
      · exact List.Sublist.refl _
  · refine ⟨_, S.filter (fun v => v != h), ⟨Pre.filter (fun v => v != h), List.filter_append .. |>.symm⟩,
      d, nd, sg, ?_, ?_, Pre.filter (fun v => v != h), List.filter_append .. |>.symm,
      hord.trans (List.Sublist.append_left List.filter_sublist _)⟩
    · intro v hv hm
      apply h5 v hv
      rcases List.mem_append.mp hm with hm | hm
      · exact List.mem_append_left _ hm
      · exact List.mem_append_right _ (List.mem_filter.mp hm).1
    · intro x hx hl
      obtain ⟨hxh, ho⟩ := howed x hx hl
      exact ho.imp_right fun ⟨hs, hne⟩ => ⟨List.mem_filter.mpr ⟨hs, by simpa using hxh⟩, hne⟩

theorem kept_remove {l SL b} (r : Rep l SL b) (h : Hd) {P P' : Nat → Prop} (hPP : ∀ x, P' x → P x)
    (hP0 : ∀ x, P x → (l.heap x).counter = 0) :
    Kept l SL.ids b P (l.remove h).1 (SL.remove h).1.ids b P' := by
  refine r.remove_ind (motive := fun x y => Kept l SL.ids b P x.1 y.1.ids b P') h (fun hp => ?_)
    (.of_heap rfl (Nat.le_refl _) (Nat.le_refl _) (fun x _ => hPP x))
  refine ⟨Nat.le_of_eq (freeNode_cur l h).symm, Nat.le_refl _, fun x _ => hPP x,
    fun _ _ _ _ w => (walkV_freeNode r hP0 hp w).mono (Nat.le_refl b) (fun x _ => hPP x), fun W _ ho => ?_⟩
  rw [liveIn_freeNode, SList.ids_erase]
  exact ho.filter _

theorem remove_counter' (l : CL) (h a : Nat) :
    ((l.remove h).1.heap a).counter = 0 ∨ ((l.remove h).1.heap a).counter = (l.heap a).counter := by
  unfold CL.remove
  split
  · rw [freeNode_counter]; split
    · exact Or.inl rfl
    · exact Or.inr rfl
  · exact Or.inr rfl

theorem remove_cb (l : CL) (h a : Nat) : ((l.remove h).1.heap a).cb = (l.heap a).cb := by
  unfold CL.remove
  split
  · exact freeNode_cb l h a
  · rfl

end Evp
