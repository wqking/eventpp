/-
  Balanced `DisableQueueNotify` scopes (WF (b)): in every reachable state each thread's remaining
  program closes exactly the objects the thread has open; in particular a finished thread owns none.
-/
import EventppVerif.Conc.WaitDqn
import EventppVerif.Conc.WaitDefs

namespace Evp.Conc

/-- the calls whose effect on `dqn` is still to come: the rest of the program after the current call, and the
    current call itself if it is a constructor or destructor that has not touched the counter yet -/
def ahead (th : Thread) : List Call :=
  match th.pc with
  | .idle => th.prog
  | .dqnInc => .dqnBegin :: th.prog.tail
  | .dqnDec => .dqnEnd :: th.prog.tail
  | _ => th.prog.tail

def BInv (s : State) : Prop := ∀ t th, getT s t = some th → dqnBalanced th.dqn (ahead th) = true

theorem BInv_step {s s' : State} {t : Tid} {ch : Nat} (hB : BInv s) (h : step s t ch = some s') :
    BInv s' := by
  obtain ⟨⟨prog, pc, rets, dqn⟩, _, hg, rfl, hst⟩ := Step.of_step h
  have hb := hB t _ hg
  -- a wake-up leaves `ahead` alone; the other threads are untouched
  refine step_lift (Q := fun _ th => dqnBalanced th.dqn (ahead th) = true) h
    (fun _ thu _ hpc hb => by rwa [ahead, hpc] at hb) ?_ fun u thu _ => hB u thu
  cases hst
  -- `hb` itself closes every case in which `dqnBalanced dqn (ahead _)` is the same up to computation; where a call
  -- is entered the head of the program is consumed, and `cases hp` lets `dqnBalanced` compute on it
  case idleDqnEndNone hp hd => cases hp; cases hd; cases hb
  case idleEnqueue hp | idleProcess hp | idleProcessOne hp | idleProcessIf hp | idleProcessUntil hp | idleTake hp |
      idlePeek hp | idleClear hp | idleEmpty hp | idleWait hp | idleWaitFor hp | idleDqnBegin hp | idleDqnEnd hp _ =>
    cases hp; exact ⟨_, set_self hg _, hb⟩
  case dqnDec => exact ⟨_, set_self hg _, (Bool.and_eq_true _ _ ▸ hb).2⟩
  case enqNotify | dqnNotify | procPbNotify => exact ⟨_, set_self (threads_notifyOne_of hg nofun ch) _, hb⟩
  all_goals exact ⟨_, set_self hg _, hb⟩

theorem BInv_init {progs : List (List Call)} (hwf : ∀ p ∈ progs, dqnBalanced 0 p = true) (b : Bool) :
    BInv (init progs b) := by
  intro t th hg
  obtain ⟨p, hp, rfl⟩ := init_thread hg
  exact hwf p (List.mem_of_getElem? hp)

theorem BInv_reach {progs : List (List Call)} (hwf : ∀ p ∈ progs, dqnBalanced 0 p = true) {b : Bool} {s : State}
    (hr : ReachF progs b s) : BInv s :=
  hr.induction (BInv_init hwf b) fun _ _ _ _ hB h => BInv_step hB h

theorem finished_dqn_zero {th : Thread} (hb : dqnBalanced th.dqn (ahead th) = true) (hf : finished th = true) :
    th.dqn = 0 := by
  obtain ⟨h1, h2⟩ := finished_iff.1 hf
  simpa [ahead, h1, h2, dqnBalanced] using hb

end Evp.Conc
