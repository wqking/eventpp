/-
  Invariants of the concurrent queue model that hold for EVERY family of programs.  Two shared variables mirror pcs:
  `queueEmptyCounter` is the number of threads inside the guarded part of a processing call (`GuardInv`), and
  `qm = some t` iff `t` is a waiter evaluating its predicate (`MutexInv`).  Every id below `nextEv` is in exactly one
  of `queue`, some thread's local lists, `consumed` (`ConsInv`), and ids are handed out in splice-in order (`EnqInv`).
  Order (`Ord`): for a thread `u`, the ids `u` consumed, then its local list, then the queue form a sublist of
  `range nextEv` (so one increasing list), as long as `u` declines nothing and nobody else puts anything back; who
  satisfies the two conditions is said in Conc/QueueInvB.lean (nobody puts back) and Conc/QueueInvC.lean (one consumer).
-/
import EventppVerif.Conc.QueueInv

namespace Evp.Conc
open List

variable {progs : List (List Call)} {flag : Bool} {s s' : State} {t ch : Nat}

def GuardInv (s : State) : Prop := s.ec = guardCountL s.threads

theorem GuardInv.step (hinv : GuardInv s) (h : Conc.step s t ch = some s') : GuardInv s' := by
  obtain ⟨th, th', hg, hg', -, hec, -⟩ := step_shared h
  have hsum := step_sum (g := fun pc => if guardActive pc then 1 else 0) (fun _ => rfl) h hg hg'
  have hpos := guardCountL_pos hg
  simp only [GuardInv, guardCountL_eq_sum] at hinv hsum hpos ⊢
  by_cases hga : guardActive th.pc = true
  · have := hpos hga
    simp only [hga, if_true] at hec hsum
    omega
  · simp only [hga] at hec hsum
    omega

theorem ReachF.guard (h : ReachF progs flag s) : GuardInv s :=
  h.induction (List.countP_eq_zero.mpr fun _ hth => by obtain ⟨_, _, rfl⟩ := List.mem_map.mp hth; simp [guardActive]).symm
    fun _ _ _ _ hi hs => hi.step hs

theorem map_fst_tag (q : List Nat) (hw : How) (t : Tid) : (q.map (fun e => (e, hw, t))).map (·.1) = q := by
  simp [Function.comp_def]

/-- conservation, counting form: every id below `nextEv` is in exactly one place -/
def ConsInv (s : State) : Prop :=
  ∀ a, count a s.queue + count a (inflightL s.threads) + count a (s.consumed.map (·.1)) = count a (range s.nextEv)

theorem ConsInv.step (hinv : ConsInv s) (h : Conc.step s t ch = some s') : ConsInv s' := by
  obtain ⟨th, th', hg, hg', hm, -⟩ := step_shared h
  intro a
  have h1 := hinv a
  have h2 := step_sum (g := fun pc => count a (inflightOf pc)) (fun _ => rfl) h hg hg'
  simp only [count_inflightL] at h1 ⊢
  cases hm with
  | stay hq hc hn _ hl => rw [hq, hc, hn]; rw [hl] at h2; omega
  | enq hq hc hn _ hl => rw [hq, hc, hn, count_append, range_succ, count_append]; rw [hl] at h2; omega
  | take hq hc hn _ hl => rw [hc, hn]; rw [hq, count_append] at h1; rw [hl, count_nil] at h2; omega
  | dispatch _ hq hc hn _ hl hl' =>
    rw [hq, hc, hn, map_append, count_append]
    rw [hl, hl', count_append, count_append, count_cons] at h2
    simp only [map_cons, map_nil, count_cons, count_nil]; omega
  | putBack _ hq hc hn _ hl => rw [hq, hc, hn, count_append]; rw [hl, count_nil] at h2; omega
  | remove hw _ hq hc hn _ hl hl' =>
    rw [hc, hn, map_append, count_append, map_fst_tag]; rw [hq, count_append] at h1; rw [hl, hl'] at h2; omega

theorem ReachF.cons (h : ReachF progs flag s) : ConsInv s := by
  refine h.induction (fun a => ?_) fun _ _ _ _ hi hs => hi.step hs
  have : inflightL (Conc.init progs flag).threads = [] :=
    List.flatMap_eq_nil_iff.mpr fun _ hth => by obtain ⟨_, _, rfl⟩ := List.mem_map.mp hth; rfl
  rw [this]
  rfl

theorem ConsInv.mem_iff (hc : ConsInv s) {x : Nat} :
    x ∈ s.queue ∨ x ∈ inflightL s.threads ∨ x ∈ s.consumed.map (·.1) ↔ x < s.nextEv := by
  have := hc x
  simp only [← List.count_pos_iff (a := x), ← List.mem_range (n := s.nextEv)]
  omega

section
variable {pc : PC} {loc loc' : List Nat}

theorem Move.consumed_eq (hm : Move t pc s s' loc loc') :
    ∃ (l : List Nat) (hw : How), s'.consumed = s.consumed ++ l.map (fun e => (e, hw, t)) := by
  cases hm
  case dispatch e _ _ _ _ _ hc _ _ _ _ => exact ⟨[e], .dispatched, hc⟩
  case remove hw _ _ hc _ _ _ _ => exact ⟨_, hw, hc⟩
  all_goals exact ⟨[], .taken, by rw [‹s'.consumed = _›]; exact (List.append_nil _).symm⟩

theorem Move.queue_cases (hm : Move t pc s s' loc loc') (hp : ∀ kept any, pc ≠ .procPutBack kept any) :
    (∃ l, s.queue = l ++ s'.queue) ∧ s'.nextEv = s.nextEv ∨
    s'.queue = s.queue ++ [s.nextEv] ∧ s'.nextEv = s.nextEv + 1 := by
  cases hm
  case enq hq _ hn _ _ => exact Or.inr ⟨hq, hn⟩
  case take hq _ hn _ _ => exact Or.inl ⟨⟨_, hq⟩, hn⟩
  case remove hq _ hn _ _ _ => exact Or.inl ⟨⟨_, hq⟩, hn⟩
  case putBack hpc _ _ _ _ _ => exact absurd hpc (hp _ _)
  all_goals exact Or.inl ⟨⟨[], by rw [‹s'.queue = _›]; rfl⟩, ‹_›⟩

theorem Move.consumed_of_nonrem (hm : Move t pc s s' loc loc') (hr : remPc pc = false) :
    s'.consumed = s.consumed := by
  cases hm
  case dispatch hpc _ _ _ _ _ _ => rw [hpc] at hr; cases hr
  case remove hr' _ _ _ _ _ _ => rw [hr] at hr'; cases hr'
  all_goals assumption

end

def EnqInv (s : State) : Prop := s.enqueued.map (·.1) = List.range s.nextEv

theorem EnqInv.step (hinv : EnqInv s) (h : Conc.step s t ch = some s') : EnqInv s' := by
  obtain ⟨_, _, _, _, hm, -⟩ := step_shared h
  unfold EnqInv at *
  cases hm
  case enq hn he _ => rw [hn, he, map_append, hinv, range_succ]; rfl
  all_goals rw [‹s'.nextEv = _›, ‹s'.enqueued = _›, hinv]

theorem ReachF.enq (h : ReachF progs flag s) : EnqInv s :=
  h.induction (P := EnqInv) rfl fun _ _ _ _ hi hs => hi.step hs

/-- `qm` names exactly the thread that is evaluating its wait predicate -/
def MutexInv (s : State) : Prop :=
  ∀ u, s.qm = some u ↔ ∃ thu, s.threads[u]? = some thu ∧ holdsM thu.pc = true

theorem exists_thread_iff {l : List Thread} {u : Nat} {x : Thread} (h : l[u]? = some x) (P : Thread → Prop) :
    (∃ y, l[u]? = some y ∧ P y) ↔ P x :=
  ⟨fun ⟨_, h1, h2⟩ => by rw [h] at h1; cases h1; exact h2, fun hp => ⟨x, h, hp⟩⟩

theorem MutexInv.step (hinv : MutexInv s) (h : Conc.step s t ch = some s') : MutexInv s' := by
  obtain ⟨th, th', hg, hg', -, -, hm⟩ := step_shared h
  have ht := (hinv t).trans (exists_thread_iff hg _)
  intro u
  by_cases hut : u = t
  · subst hut
    rw [exists_thread_iff hg']
    rcases hm with ⟨hq, hh⟩ | ⟨_, hq, _, hh⟩ | ⟨hq, _, hh⟩ <;> rw [hq, hh]
    · exact ht
    · simp
    · simp
  · -- the other threads neither acquire nor release
    have hu : (∃ thu, s'.threads[u]? = some thu ∧ holdsM thu.pc = true) ↔
        ∃ thu, s.threads[u]? = some thu ∧ holdsM thu.pc = true := by
      rcases step_others h u hut with h1 | ⟨thu, timed, h1, h2, h3⟩
      · rw [h1]
      · rw [h1, h3]; simp [h2, holdsM]
    have hne : some t ≠ some u := fun h => hut (Option.some.inj h).symm
    rw [hu, ← hinv u]
    rcases hm with ⟨hq, _⟩ | ⟨hq0, hq, _, _⟩ | ⟨hq, hh, _⟩
    · rw [hq]
    · rw [hq, hq0]; simp [hne]
    · rw [hq, ht.mpr hh]; simp [hne]

theorem ReachF.mutex (h : ReachF progs flag s) : MutexInv s := by
  refine h.induction (P := MutexInv) (fun u => ⟨fun h => (by cases h), fun ⟨thu, h1, h2⟩ => ?_⟩) fun _ _ _ _ hi hs => hi.step hs
  rw [init_pc h1] at h2; cases h2

/-- ids of the entries of the `consumed` log `c` that thread `u` consumed (dispatched, took or cleared) -/
def consumedByL (c : List (Nat × How × Tid)) (u : Tid) : List Nat := (c.filter (·.2.2 == u)).map (·.1)

theorem consumedByL_append (c d : List (Nat × How × Tid)) (u : Tid) :
    consumedByL (c ++ d) u = consumedByL c u ++ consumedByL d u := by
  simp [consumedByL]

theorem consumedByL_tag (q : List Nat) (hw : How) (t u : Tid) :
    consumedByL (q.map (fun e => (e, hw, t))) u = if t = u then q else [] := by
  by_cases h : t = u <;> simp [consumedByL, List.filter_map, Function.comp_def, h]

/-- the local list of thread `u` -/
def locOf (s : State) (u : Tid) : List Nat := ((s.threads.map fun th => inflightOf th.pc)[u]?).getD []

theorem locOf_eq {u : Tid} {thu : Thread} (h : s.threads[u]? = some thu) : locOf s u = inflightOf thu.pc := by
  simp [locOf, h]

/-- what `u` consumed, what it holds, and the queue, in this order -/
def chain (s : State) (u : Tid) : List Nat := consumedByL s.consumed u ++ locOf s u ++ s.queue

/-- what `u` consumed, holds and can still see, in this order, is a sublist of the ids in the order they were handed out -/
def Ord (s : State) (u : Tid) : Prop := chain s u <+ List.range s.nextEv

theorem Ord.pairwise {u : Tid} (h : Ord s u) : (chain s u).Pairwise (· < ·) :=
  List.pairwise_lt_range.sublist h

/-- every id that has left the queue is in the chain of the thread that holds or consumed it, ahead of the queue -/
theorem exists_mem_chain {x : Nat} (hx : x ∈ inflightL s.threads ∨ x ∈ s.consumed.map (·.1)) :
    ∃ u, x ∈ consumedByL s.consumed u ++ locOf s u := by
  rcases hx with hx | hx
  · obtain ⟨th, hth, hx⟩ := List.mem_flatMap.mp hx
    obtain ⟨u, hu⟩ := List.mem_iff_getElem?.mp hth
    exact ⟨u, List.mem_append_right _ (by rw [locOf_eq hu]; exact hx)⟩
  · obtain ⟨y, hy, rfl⟩ := List.mem_map.mp hx
    exact ⟨y.2.2, List.mem_append_left _ (List.mem_map.mpr ⟨y, List.mem_filter.mpr ⟨hy, beq_self_eq_true _⟩, rfl⟩)⟩

/-- The step lemma of the order argument.  As long as the stepping thread `t`, when it is `u` itself, declines
    nothing, and when it is another thread, puts nothing back: a step of `u` leaves `chain s u` the very same
    list — it only moves the borders between its three parts — or splices the fresh id to its end; a step of
    another thread takes a front part off the queue or splices the fresh id to its end. -/
theorem Ord.step {u : Tid} {th : Thread} (h : Conc.step s t ch = some s')
    (hg : s.threads[t]? = some th)
    (hself : t = u → ∀ m todo kept any, th.pc = .procLoop m todo kept any → kept = [])
    (hother : t ≠ u → ∀ kept any, th.pc ≠ .procPutBack kept any) (ho : Ord s u) : Ord s' u := by
  have key : chain s' u <+ chain s u ∧ s'.nextEv = s.nextEv ∨
      chain s' u = chain s u ++ [s.nextEv] ∧ s'.nextEv = s.nextEv + 1 := by
    obtain ⟨th2, th', hg2, hg', hm, -⟩ := step_shared h
    cases hg.symm.trans hg2
    unfold chain
    by_cases htu : t = u
    · subst htu
      rw [locOf_eq hg, locOf_eq hg']
      cases hm with
      | stay hq hc hn _ hl => rw [hq, hc, hl]; exact Or.inl ⟨.refl _, hn⟩
      | enq hq hc hn _ hl => rw [hq, hc, hl]; exact Or.inr ⟨by simp, hn⟩
      | take hq hc hn _ hl => rw [hc, hq, hl]; simp [hn]
      | dispatch hpc hq hc hn _ hl hl' =>
        cases hself rfl _ _ _ _ hpc
        rw [hq, hc, hl, hl', consumedByL_append]
        simp [consumedByL, hn]
      | putBack _ hq hc hn _ hl => rw [hq, hc, hl]; simp [hn]
      | remove hw _ hq hc hn _ hl hl' => rw [hc, hq, hl, hl', consumedByL_append, consumedByL_tag]; simp [hn]
    · have hl : locOf s' u = locOf s u := by
        unfold locOf
        rw [step_map (g := inflightOf) (fun _ => rfl) h hg', List.getElem?_set_ne htu]
      obtain ⟨l, hw, hc⟩ := hm.consumed_eq
      rw [hl, hc, consumedByL_append, consumedByL_tag, if_neg htu, List.append_nil]
      rcases hm.queue_cases (hother htu) with ⟨⟨l, hq⟩, hn⟩ | ⟨hq, hn⟩ <;> rw [hq]
      · exact Or.inl ⟨(List.Sublist.refl _).append (List.sublist_append_right _ _), hn⟩
      · exact Or.inr ⟨(List.append_assoc ..).symm, hn⟩
  unfold Ord
  rcases key with ⟨hs, hn⟩ | ⟨hs, hn⟩
  · rw [hn]; exact hs.trans ho
  · rw [hs, hn, List.range_succ]; exact ho.append (.refl _)

theorem ReachF.ord_of {u : Tid}
    (hok : ∀ s t th, ReachF progs flag s → s.threads[t]? = some th →
      (t = u → ∀ m todo kept any, th.pc = .procLoop m todo kept any → kept = []) ∧
      (t ≠ u → ∀ kept any, th.pc ≠ .procPutBack kept any))
    (h : ReachF progs flag s) : Ord s u := by
  refine h.induction' (P := fun s => Ord s u) ?_ fun s t ch s' hr ho hs => ?_
  · have : locOf (Conc.init progs flag) u = [] := by
      cases h : (Conc.init progs flag).threads[u]? with
      | none => simp [locOf, h]
      | some thu => rw [locOf_eq h, init_pc h]; rfl
    unfold Ord chain
    rw [this]
    exact .refl _
  · obtain ⟨th, hg⟩ := step_getT hs
    exact ho.step hs hg (hok s t th hr hg).1 (hok s t th hr hg).2

end Evp.Conc
