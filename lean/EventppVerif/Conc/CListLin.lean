import EventppVerif.Conc.CListInv
/-
  Linearization log of the concurrent callback-list model: the ghost log of linearization steps, the
  sequential Spec run of a log, and the facts relating them.  The log of a run from a state satisfying
  the invariant is a legal sequential history that ends in the list of the concurrent run, and the
  handles it hands out are new; along such a history nothing is lost or duplicated: the ids removed
  and the final ids are, up to order, the initial ids and the ids added (`history_perm`).
-/
namespace Evp.ConcL

/-- one linearized call: (thread, call, result) -/
abbrev LogEntry := Nat × Call × Ret

/-- What the step `s → s'` of thread `t` contributes to the log: if it is a linearization step
    (`link`, `removeCs`, `ownsCs`, `emptyRead`), the call at the head of the thread's program together
    with the result the step recorded for it (the last entry of the thread's `rets` afterwards). -/
def linEntry (s s' : State) (t : Nat) : Option LogEntry :=
  match getT s t, getT s' t with
  | some th, some th' =>
    if th.pc.isLin then
      match th.prog.head?, th'.rets.getLast? with
      | some c, some r => some (t, c, r)
      | _, _ => none
    else none
  | _, _ => none

/-- the ghost log of a schedule: replay it and record every linearization step -/
def logOf (s : State) : List Nat → List LogEntry
  | [] => []
  | t :: rest =>
    match step s t with
    | some s' => (linEntry s s' t).toList ++ logOf s' rest
    | none => logOf s rest

/-- One call of a sequential history: the Spec list after `c`, provided `r` is the result the Spec
    gives (`none` if it is not).  For the adding calls the result is the new handle, which the Spec
    operation takes as a parameter; that handles are new is `adds_fresh` below. -/
def specCall (SL : SList) (c : Call) (r : Ret) : Option SList :=
  match c, r with
  | .append cb, .handle id => some (SL.append id cb)
  | .prepend cb, .handle id => some (SL.prepend id cb)
  | .insert cb b, .handle id => some (SL.insert id cb b)
  | .remove h, .bool r => if (SL.remove h).2 = r then some (SL.remove h).1 else none
  | .owns h, .bool r => if SL.present h = r then some SL else none
  | .empty, .bool r => if SL.isEmpty = r then some SL else none
  | _, _ => none

/-- run a log as a sequential history from the Spec list `SL`; `none` if some result is wrong -/
def specRun : SList → List LogEntry → Option SList
  | SL, [] => some SL
  | SL, (_, c, r) :: rest =>
    match specCall SL c r with
    | some SL' => specRun SL' rest
    | none => none

/-- the handle an entry hands out -/
def addOf (e : LogEntry) : Option Nat :=
  match e.2.2 with
  | .handle h => some h
  | _ => none

/-- the handle an entry removes successfully -/
def remOf (e : LogEntry) : Option Nat :=
  match e.2.1, e.2.2 with
  | .remove h, .bool true => some h
  | _, _ => none

def adds (log : List LogEntry) : List Nat := log.filterMap addOf
def rems (log : List LogEntry) : List Nat := log.filterMap remOf

theorem linEntry_nonlin {s s' : State} {t : Nat} {th : Thread} (hg : getT s t = some th)
    (hl : th.pc.isLin = false) : linEntry s s' t = none := by
  unfold linEntry
  rw [hg]
  cases getT s' t <;> simp [hl]

theorem lin_table {pc : PC} (hl : pc.isLin = true) (SL : SList) :
    ∃ c r, callOf pc = some c ∧ (specEffect pc SL).2 = some r ∧ specCall SL c r = some (specEffect pc SL).1 ∧
      c ≠ .invoke := by
  cases pc <;> cases hl
  case link k cb b id c =>
    by_cases h0 : k = 0
    · subst h0; exact ⟨.append cb, _, rfl, rfl, rfl, nofun⟩
    · by_cases h1 : k = 1
      · subst h1; exact ⟨.prepend cb, _, rfl, rfl, rfl, nofun⟩
      · exact ⟨.insert cb b, _, by simp [callOf, h0, h1], rfl, by simp [specCall, specEffect, specLink, h0, h1], nofun⟩
  case removeCs h => exact ⟨_, _, rfl, rfl, if_pos rfl, nofun⟩
  case ownsCs h => exact ⟨_, _, rfl, rfl, if_pos rfl, nofun⟩
  case emptyRead => exact ⟨_, _, rfl, rfl, if_pos rfl, nofun⟩

theorem linEntry_lin {s s' : State} {SL : SList} {t : Nat} {th : Thread} (h : InvW s SL)
    (hg : getT s t = some th) (hst : Step s t th s') (hl : th.pc.isLin = true) :
    ∃ c r, callOf th.pc = some c ∧ (specEffect th.pc SL).2 = some r ∧
      specCall SL c r = some (specEffect th.pc SL).1 ∧ c ≠ .invoke ∧
      th.prog.head? = some c ∧ linEntry s s' t = some (t, c, r) := by
  obtain ⟨c, r, h1, h2, h3, h4⟩ := lin_table hl SL
  obtain ⟨th', g1, g2, _, _⟩ := step_result h hg hst h2
  have hhead := (h.thr t th hg).call c h1
  refine ⟨c, r, h1, h2, h3, h4, hhead, ?_⟩
  unfold linEntry
  rw [hg, g1]
  simp [hl, hhead, g2]

theorem log_legal {s : State} {SL : SList} (h : InvW s SL) (sched : List Nat) :
    ∃ SLf, InvW (exec s sched) SLf ∧ specRun SL (logOf s sched) = some SLf := by
  induction sched generalizing s SL with
  | nil => exact ⟨SL, h, rfl⟩
  | cons t rest ih =>
    unfold exec logOf
    cases hs : step s t with
    | none => exact ih h
    | some s' =>
      simp only
      obtain ⟨th, hg⟩ := step_getT hs
      have hsu := step_sound hg hs
      have hst := invW_step h hg hsu
      obtain ⟨SLf, i1, i2⟩ := ih hst
      refine ⟨SLf, i1, ?_⟩
      cases hl : th.pc.isLin with
      | false =>
        rw [linEntry_nonlin hg hl]
        rw [specEffect_nonlin hl] at i2
        exact i2
      | true =>
        obtain ⟨c, r, _, _, h3, _, _, h6⟩ := linEntry_lin h hg hsu hl
        rw [h6]
        simp only [Option.toList, List.cons_append, List.nil_append, specRun, h3]
        exact i2

theorem adds_fresh {s : State} {SL : SList} (h : InvW s SL) (sched : List Nat) :
    (∀ x ∈ adds (logOf s sched), Avail s x) ∧ (adds (logOf s sched)).Nodup := by
  induction sched generalizing s SL with
  | nil => simp [logOf, adds]
  | cons t rest ih =>
    unfold logOf
    cases hs : step s t with
    | none => exact ih h
    | some s' =>
      simp only
      obtain ⟨th, hg⟩ := step_getT hs
      have hsu := step_sound hg hs
      have hst := invW_step h hg hsu
      obtain ⟨i1, i2⟩ := ih hst
      have hav : ∀ x ∈ adds (logOf s' rest), Avail s x := fun x hx => avail_step hg hsu x (i1 x hx)
      cases hl : th.pc.isLin with
      | false =>
        rw [linEntry_nonlin hg hl]
        exact ⟨hav, i2⟩
      | true =>
        obtain ⟨c, r, _, h2, _, _, _, h6⟩ := linEntry_lin h hg hsu hl
        rw [h6]
        simp only [Option.toList, List.cons_append, List.nil_append, adds, List.filterMap_cons]
        cases hx : addOf (t, c, r) with
        | none => exact ⟨hav, i2⟩
        | some x =>
          -- a result that is a handle is the result of a `link` step
          obtain ⟨a1, a2⟩ : Avail s x ∧ ¬ Avail s' x := by
            cases hpc : th.pc <;> rw [hpc] at h2 <;> cases h2 <;> cases hx
            exact avail_link h hg hsu hpc
          simp only
          refine ⟨?_, List.nodup_cons.mpr ⟨fun hm => a2 (i1 x hm), i2⟩⟩
          intro y hy
          rcases List.mem_cons.mp hy with rfl | hy
          · exact a1
          · exact hav y hy

/-- one legal call: it hands out a handle that joins the list, or removes a handle of the list, or
    leaves the list alone -/
theorem specCall_perm {SL SL' : SList} {t : Nat} {c : Call} {r : Ret} (hc : specCall SL c r = some SL')
    (hnd : SL.ids.Nodup) :
    (∃ id, addOf (t, c, r) = some id ∧ remOf (t, c, r) = none ∧ SL'.ids.Perm (id :: SL.ids)) ∨
    (∃ h, addOf (t, c, r) = none ∧ remOf (t, c, r) = some h ∧ SL.ids.Perm (h :: SL'.ids)) ∨
    (SL' = SL ∧ addOf (t, c, r) = none ∧ remOf (t, c, r) = none) := by
  cases c <;> cases r <;> simp only [specCall, Option.some.injEq, reduceCtorEq] at hc
  case append.handle cb id =>
    subst hc
    exact Or.inl ⟨id, rfl, rfl, SList.ids_append_perm ..⟩
  case prepend.handle cb id =>
    subst hc
    exact Or.inl ⟨id, rfl, rfl, .refl _⟩
  case insert.handle cb b id =>
    subst hc
    exact Or.inl ⟨id, rfl, rfl, SList.ids_insert_perm ..⟩
  case remove.bool h b =>
    split at hc
    · next hb =>
      cases hc
      rw [SList.remove_snd] at hb
      cases b with
      | true =>
        refine Or.inr (Or.inl ⟨h, rfl, rfl, ?_⟩)
        rw [SList.ids_remove _ _ hnd]
        exact List.perm_cons_erase (SList.present_iff.mp hb)
      | false =>
        rw [SList.remove_absent _ _ hb]
        exact Or.inr (Or.inr ⟨rfl, rfl, rfl⟩)
    · cases hc
  case owns.bool h b =>
    split at hc
    · cases hc; exact Or.inr (Or.inr ⟨rfl, rfl, rfl⟩)
    · cases hc
  case empty.bool b =>
    split at hc
    · cases hc; exact Or.inr (Or.inr ⟨rfl, rfl, rfl⟩)
    · cases hc

/-- **nothing is lost or duplicated**: along a legal history whose new handles are new, the handles
    removed successfully together with those in the final list are, up to order, the handles that were
    in the list together with those handed out -/
theorem history_perm : ∀ (log : List LogEntry) {SL SL' : SList}, specRun SL log = some SL' → SL.ids.Nodup →
    (∀ a ∈ adds log, a ∉ SL.ids) → (adds log).Nodup → (rems log ++ SL'.ids).Perm (SL.ids ++ adds log)
  | [], SL, SL', hr, _, _, _ => by cases hr; simp [adds, rems]
  | (t, c, r) :: rest, SL, SL', hr, hnd, hf, hn => by
    simp only [specRun] at hr
    cases hc : specCall SL c r with
    | none => rw [hc] at hr; cases hr
    | some SL1 =>
      rw [hc] at hr
      unfold adds rems at *
      simp only [List.filterMap_cons] at hf hn ⊢
      rcases specCall_perm (t := t) hc hnd with ⟨id, a1, a2, a3⟩ | ⟨h, a1, a2, a3⟩ | ⟨rfl, a1, a2⟩
      · rw [a1] at hf hn; rw [a1, a2]
        have hn' := List.nodup_cons.mp hn
        have hid : id ∉ SL.ids := hf id (List.mem_cons_self ..)
        have ih := history_perm rest hr (a3.nodup_iff.mpr (List.nodup_cons.mpr ⟨hid, hnd⟩))
          (fun a ha hm => (List.mem_cons.mp (a3.mem_iff.mp hm)).elim (fun e => hn'.1 (e ▸ ha))
            (hf a (List.mem_cons_of_mem _ ha))) hn'.2
        exact ih.trans ((a3.append_right _).trans List.perm_middle.symm)
      · rw [a1] at hf hn; rw [a1, a2]
        have ih := history_perm rest hr (a3.nodup_iff.mp hnd |> List.nodup_cons.mp |>.2)
          (fun a ha hm => hf a ha (a3.mem_iff.mpr (List.mem_cons_of_mem _ hm))) hn
        exact (ih.cons h).trans (a3.append_right _).symm
      · rw [a1] at hf hn; rw [a1, a2]
        exact history_perm rest hr hnd hf hn

theorem history_nodup (log : List LogEntry) {SL SL' : SList} (hr : specRun SL log = some SL') (hnd : SL.ids.Nodup)
    (hf : ∀ a ∈ adds log, a ∉ SL.ids) (hn : (adds log).Nodup) : (rems log ++ SL'.ids).Nodup :=
  (history_perm log hr hnd hf hn).nodup_iff.mpr
    (List.nodup_append.mpr ⟨hnd, hn, fun _ ha b hb e => hf b hb (e ▸ ha)⟩)

theorem ids_final (log : List LogEntry) {SL SL' : SList} (hr : specRun SL log = some SL') (hnd : SL.ids.Nodup)
    (hf : ∀ a ∈ adds log, a ∉ SL.ids) (hn : (adds log).Nodup) (x : Nat) :
    x ∈ SL'.ids ↔ (x ∈ SL.ids ∨ x ∈ adds log) ∧ x ∉ rems log := by
  have hm := (history_perm log hr hnd hf hn).mem_iff (a := x)
  have hd := (List.nodup_append.mp (history_nodup log hr hnd hf hn)).2.2
  simp only [List.mem_append] at hm
  exact ⟨fun h => ⟨hm.mp (Or.inr h), fun h' => hd x h' x h rfl⟩, fun h => (hm.mpr h.1).resolve_left h.2⟩

/-- the adding, removing and querying calls a thread has not yet completed -/
def pendingCalls (s : State) (t : Nat) : List Call :=
  match getT s t with
  | some th => th.prog.filter (fun c => c != .invoke)
  | none => []

/-- the calls of thread `t` in a log, in log order -/
def callsIn (log : List LogEntry) (t : Nat) : List Call :=
  (log.filter (fun e => e.1 == t)).map (·.2.1)

theorem logOf_append (s : State) (a b : List Nat) :
    logOf s (a ++ b) = logOf s a ++ logOf (exec s a) b := by
  induction a generalizing s with
  | nil => rfl
  | cons t rest ih =>
    simp only [List.cons_append, logOf, exec]
    cases step s t with
    | none => exact ih s
    | some s' => simp only [ih s', List.append_assoc]

theorem exec_append (s : State) (a b : List Nat) : exec s (a ++ b) = exec (exec s a) b := by
  induction a generalizing s with
  | nil => rfl
  | cons t rest ih =>
    simp only [List.cons_append, exec]
    cases step s t with
    | none => exact ih s
    | some s' => exact ih s'

/-- one step: what it logs for thread `u` is what `u`'s pending calls lose -/
theorem program_order_step {s s' : State} {SL : SList} {t : Nat} {th : Thread} (h : InvW s SL)
    (hg : getT s t = some th) (hst : Step s t th s') (u : Nat) :
    callsIn (linEntry s s' t).toList u ++ pendingCalls s' u = pendingCalls s u := by
  obtain ⟨th', hsh⟩ := step_shape hg hst
  by_cases hut : u = t
  · subst hut
    have hp' : pendingCalls s' u = th'.prog.filter (fun c => c != .invoke) := by
      unfold pendingCalls; rw [hsh.getT_self hg]
    have hp : pendingCalls s u = th.prog.filter (fun c => c != .invoke) := by
      unfold pendingCalls; rw [hg]
    rw [hp', hp]
    cases hl : th.pc.isLin with
    | false =>
      rw [linEntry_nonlin hg hl]
      rcases hsh.call with h4 | h4 <;> rw [h4.1]
      · rfl
      · -- a call that ends without a log entry is an invocation
        rcases h4.2.2 with h5 | h5
        · rw [hl] at h5; cases h5
        · have hhead := (h.thr u th hg).call _ h5.1
          cases hpr : th.prog with
          | nil => rfl
          | cons c0 r0 => rw [hpr] at hhead; cases hhead; rfl
    | true =>
      obtain ⟨c, r, _, _, _, hne, hhead, h6⟩ := linEntry_lin h hg hst hl
      rw [h6]
      rcases hsh.call with h4 | h4
      · rw [hl] at h4; cases h4.2.2
      · rw [h4.1]
        cases hpr : th.prog with
        | nil => rw [hpr] at hhead; cases hhead
        | cons c0 r0 => rw [hpr] at hhead; cases hhead; simp [callsIn, hne]
  · have hoth : pendingCalls s' u = pendingCalls s u := by
      unfold pendingCalls; rw [hsh.getT_other hut]
    rw [hoth]
    cases hl : th.pc.isLin with
    | false => rw [linEntry_nonlin hg hl]; rfl
    | true =>
      obtain ⟨c, r, _, _, _, _, _, h6⟩ := linEntry_lin h hg hst hl
      have : (t == u) = false := by simpa using fun e => hut e.symm
      rw [h6]; simp [callsIn, this]

theorem program_order {s : State} {SL : SList} (h : InvW s SL) (sched : List Nat) (u : Nat) :
    callsIn (logOf s sched) u ++ pendingCalls (exec s sched) u = pendingCalls s u := by
  induction sched generalizing s SL with
  | nil => rfl
  | cons t rest ih =>
    unfold exec logOf
    cases hs : step s t with
    | none => exact ih h
    | some s' =>
      obtain ⟨th, hg⟩ := step_getT hs
      have hsu := step_sound hg hs
      simp only [callsIn, List.filter_append, List.map_append, List.append_assoc]
      exact (congrArg _ (ih (invW_step h hg hsu))).trans (program_order_step h hg hsu u)

end Evp.ConcL
