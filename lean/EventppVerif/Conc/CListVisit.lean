import EventppVerif.Conc.CListInv
/-
  An invocation calls every callback that is in the list from its start to its end.
  Fix a set `G` of ids that can no longer be handed out (allocated and linked at some time), e.g. the
  ids in the list at some state.  `Win`: the traversal part of thread `t`'s record holds relative to
  `G` (`TravOK … G`): every node of `G` that is still in the list has been called or lies ahead of the
  traversal.  Once true it stays true, whatever `t` and the other threads do: a traversal that starts
  later finds every live node of `G` in the list.  A step of another thread keeps it by `list_step` and
  `node_step`; a step of `t` itself by the lemmas the invariant uses with `G = []` (`Moves.travOK`,
  `TravOK.call`).
-/
namespace Evp.ConcL

def Win (s : State) (t : Nat) (G : List Nat) : Prop :=
  ∃ SL th, InvW s SL ∧ getT s t = some th ∧ TravOK s.list SL.ids s.nextId (Pend s.threads) th G

theorem win_start {s : State} {SL : SList} {t : Nat} {th : Thread} (h : InvW s SL)
    (hg : getT s t = some th) (hpc : th.pc = .travStart) : Win s t SL.ids := by
  refine ⟨SL, th, h, hg, fun x hx => ?_, (h.thr t th hg).start, ?_, ?_, ?_⟩
  · exact ⟨h.rep.wf.lt x hx, fun hp => h.avail_not_mem (Or.inl hp) hx⟩
  all_goals rw [hpc]; nofun

theorem win_step {s s' : State} {t u : Nat} {G : List Nat}
    (hw : Win s t G) (hs : step s u = some s') : Win s' t G := by
  obtain ⟨SL, th, h, hg, wk⟩ := hw
  obtain ⟨thu, hgu⟩ := step_getT hs
  have hsu := step_sound hgu hs
  have hst := invW_step h hgu hsu
  -- the traversal part of any record carries over to `s'`: the stepping thread holds no node of `G`
  have tr : ∀ {th' : Thread}, TravOK s.list SL.ids s.nextId (Pend s.threads) th' G →
      TravOK s'.list (specEffect thu.pc SL).1.ids s'.nextId (Pend s'.threads) th' G := fun w =>
    w.transfer (list_step h hgu hsu).2 fun x hx =>
      (node_step h hgu hsu x fun e => (wk.owed x hx).2 ⟨u, thu, hgu, e⟩).2
  by_cases hut : u = t
  · -- thread `t` itself steps: its new record, justified in the state before the step
    subst hut
    rw [hg] at hgu; cases hgu
    cases hsu with
    | move hm => exact ⟨_, _, hst, getElem?_set_self' hg, tr (hm.travOK h.rep wk)⟩
    | invoke =>
      exact ⟨_, _, hst, getElem?_set_self' hg, tr ⟨wk.owed, fun _ => by simp [curV], nofun, nofun, nofun⟩⟩
    | call hpc => exact ⟨_, _, hst, getElem?_set_self' hg, tr (wk.call h hpc)⟩
    | wrap => exact ⟨_, _, hst, hg, tr wk⟩
    | ends | draw | link | remove =>
      exact ⟨_, _, hst, getElem?_set_self' hg, tr (.off wk.owed rfl rfl rfl)⟩
  · obtain ⟨_, hsh⟩ := step_shape hgu hsu
    exact ⟨_, th, hst, by rw [hsh.getT_other (Ne.symm hut)]; exact hg, tr wk⟩

theorem win_exec {s : State} {t : Nat} {G : List Nat} (hw : Win s t G) (sched : List Nat) :
    Win (exec s sched) t G := by
  induction sched generalizing s with
  | nil => exact hw
  | cons u r ih =>
    unfold exec
    cases hs : step s u with
    | none => exact ih hw
    | some s' => exact ih (win_step hw hs)

theorem win_end {s : State} {t : Nat} {G : List Nat} (hw : Win s t G) {th : Thread} (hg : getT s t = some th)
    (hend : th.pc = .travCap none ∨ ∃ n cap, th.pc = .travNext n cap ∧ (s.list.heap n).next = none) :
    ∀ x ∈ G, (s.list.heap x).counter ≠ 0 → x ∈ curV th := by
  obtain ⟨SL, th1, h, hg1, wk⟩ := hw
  rw [hg] at hg1; cases hg1
  intro x hx hl
  rcases hend with hc | ⟨n, cap, hpc, hnx⟩
  · exact absurd (wk.empty hc x hx) hl
  · have hwk := wk.walk n (by rw [hpc]; rfl)
    rw [hpc] at hwk
    exact walkV_last h.rep hwk hnx x hx hl

end Evp.ConcL
