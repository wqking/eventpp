import EventppVerif.Conc.CList
/-
  The micro-step function `step` of Conc/CList.lean as a relation: one rule per branch, each naming
  the successor state, so that a proof about all steps is a case analysis of `Step` and never
  unfolds `step`.  The rules are grouped the way the invariants treat them: the steps that only move
  the stepping thread's program counter (`Moves`), the steps that end a call without touching the
  list object (`Ends`), and six rules of their own.
-/
namespace Evp

/-- the critical section of `append` (kind 0), `prepend` (kind 1), `insert` (any other kind): the
    `let l' := …` of `step` at `link`, word for word, so that rule `Step.link` is that branch -/
def linkOf (l : CL) (k : Nat) (cb : Cb) (bf : Hd) (id c : Nat) : CL :=
  if k = 0 then l.linkBack id cb c
  else if k = 1 then l.linkFront id cb c
  else if (l.heap bf).counter ≠ 0 then l.linkBefore id cb c bf else l.linkBack id cb c

end Evp

namespace Evp.ConcL

inductive Moves (s : State) (th : Thread) : PC → Prop
  | append {cb rest} : th.pc = .idle → th.prog = .append cb :: rest → Moves s th (.draw 0 cb 0)
  | prepend {cb rest} : th.pc = .idle → th.prog = .prepend cb :: rest → Moves s th (.draw 1 cb 0)
  | insert {cb b rest} : th.pc = .idle → th.prog = .insert cb b :: rest → Moves s th (.insBefore cb b)
  | remove {h rest} : th.pc = .idle → th.prog = .remove h :: rest → Moves s th (.removeCs h)
  | owns {h rest} : th.pc = .idle → th.prog = .owns h :: rest → Moves s th (.ownsCs h)
  | empty {rest} : th.pc = .idle → th.prog = .empty :: rest → Moves s th .emptyRead
  | lock {cb b} : th.pc = .insBefore cb b → Moves s th (.draw 2 cb b)
  | head : th.pc = .travStart → Moves s th (.travCap s.list.head)
  | cap {n} : th.pc = .travCap (some n) → Moves s th (.travCheck n s.list.cur)
  | pass {n cap} : th.pc = .travCheck n cap → guard (s.list.heap n).counter cap = true →
      Moves s th (.travCall n cap)
  | skip {n cap} : th.pc = .travCheck n cap → guard (s.list.heap n).counter cap = false →
      Moves s th (.travNext n cap)
  | next {n cap m} : th.pc = .travNext n cap → (s.list.heap n).next = some m → Moves s th (.travCheck m cap)

inductive Ends (s : State) (th : Thread) : Ret → Prop
  | owns {h} : th.pc = .ownsCs h → Ends s th (.bool (s.list.owns (s.nextId + 1) h))
  | empty : th.pc = .emptyRead → Ends s th (.bool s.list.isEmpty)
  | noHead : th.pc = .travCap none → Ends s th .unit
  | last {n cap} : th.pc = .travNext n cap → (s.list.heap n).next = none → Ends s th .unit

inductive Step (s : State) (t : Nat) (th : Thread) : State → Prop
  | move {pc'} : Moves s th pc' → Step s t th (goto s t th pc')
  | invoke {rest} : th.pc = .idle → th.prog = .invoke :: rest →
      Step s t th (goto s t { th with visits := th.visits ++ [[]] } .travStart)
  | call {n cap} : th.pc = .travCall n cap →
      Step s t th (goto s t (addVisit th n (s.list.heap n).cb) (.travNext n cap))
  | ends {r} : Ends s th r → Step s t th (finish s t th r)
  | wrap {k cb b} : th.pc = .draw k cb b → s.list.willWrap = true → Step s t th { s with unsupported := true }
  | draw {k cb b} : th.pc = .draw k cb b → s.list.willWrap = false →
      Step s t th (goto { s with list := { s.list with cur := s.list.cur + 1 }, nextId := s.nextId + 1 } t th
        (.link k cb b s.nextId (s.list.cur + 1)))
  | link {k cb b id c} : th.pc = .link k cb b id c →
      Step s t th (finish { s with list := linkOf s.list k cb b id c } t th (.handle id))
  | remove {h} : th.pc = .removeCs h →
      Step s t th (finish { s with list := (s.list.remove h).1 } t th (.bool (s.list.remove h).2))

theorem step_getT {s s' : State} {t : Nat} (hs : step s t = some s') : ∃ th, getT s t = some th := by
  cases hg : getT s t with
  | none => unfold step at hs; rw [hg] at hs; cases hs
  | some th => exact ⟨th, rfl⟩

theorem step_sound {s s' : State} {t : Nat} {th : Thread} (hg : getT s t = some th)
    (hs : step s t = some s') : Step s t th s' := by
  unfold step at hs
  rw [hg] at hs
  simp only at hs
  split at hs
  · next hpc =>
    split at hs <;> cases hs
    · next hprog => exact .move (.append hpc hprog)
    · next hprog => exact .move (.prepend hpc hprog)
    · next hprog => exact .move (.insert hpc hprog)
    · next hprog => exact .move (.remove hpc hprog)
    · next hprog => exact .move (.owns hpc hprog)
    · next hprog => exact .move (.empty hpc hprog)
    · next hprog => exact .invoke hpc hprog
  · next hpc => cases hs; exact .move (.lock hpc)
  · next hpc =>
    split at hs <;> cases hs
    · next hw => exact .wrap hpc hw
    · next hw => exact .draw hpc (by simpa using hw)
  · next hpc => cases hs; exact .link hpc
  · next hpc => cases hs; exact .remove hpc
  · next hpc => cases hs; exact .ends (.owns hpc)
  · next hpc => cases hs; exact .ends (.empty hpc)
  · next hpc => cases hs; exact .move (.head hpc)
  · next hpc =>
    split at hs <;> cases hs
    · exact .ends (.noHead hpc)
    · exact .move (.cap hpc)
  · next hpc =>
    split at hs <;> cases hs
    · next hgd => exact .move (.pass hpc hgd)
    · next hgd => exact .move (.skip hpc (by simpa using hgd))
  · next hpc => cases hs; exact .call hpc
  · next hpc =>
    split at hs <;> cases hs
    · next hn => exact .ends (.last hpc hn)
    · next hn => exact .move (.next hpc hn)

/-! ### the steps the property statements quote -/

theorem step_travCheck {s : State} {t : Nat} {th : Thread} {n cap : Nat} (hg : getT s t = some th)
    (hpc : th.pc = .travCheck n cap) :
    step s t = some (goto s t th (if guard (s.list.heap n).counter cap then .travCall n cap else .travNext n cap)) := by
  unfold step
  rw [hg]
  simp only [hpc]
  split <;> rfl

theorem step_travCall {s : State} {t : Nat} {th : Thread} {n cap : Nat} (hg : getT s t = some th)
    (hpc : th.pc = .travCall n cap) :
    step s t = some (goto s t (addVisit th n (s.list.heap n).cb) (.travNext n cap)) := by
  unfold step
  rw [hg]
  simp only [hpc]

theorem step_travCap_none {s : State} {t : Nat} {th : Thread} (hg : getT s t = some th)
    (hpc : th.pc = .travCap none) : step s t = some (finish s t th .unit) := by
  unfold step; rw [hg]; simp only [hpc]

theorem step_travNext_none {s : State} {t : Nat} {th : Thread} {n cap : Nat} (hg : getT s t = some th)
    (hpc : th.pc = .travNext n cap) (hn : (s.list.heap n).next = none) :
    step s t = some (finish s t th .unit) := by
  unfold step; rw [hg]; simp only [hpc, hn]

end Evp.ConcL
