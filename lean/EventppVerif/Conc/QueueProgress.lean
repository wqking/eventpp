/-
  Enabledness of micro-steps.  A thread is blocked only when it has finished, needs `queueListMutex` while it is
  taken, or is parked (`step_eq_none`); so an unfinished thread can always step when the mutex is free, and the holder
  of the mutex (a waiter evaluating its predicate) can always step.  The pcs whose step needs the mutex: `enqSplice`,
  `procTake`, `procPutBack`, `takeLocked`, `peekLocked`, `clearLocked`, `waitLock`, `woken`, and `dqnDec` if `dqnLocked`.
-/
import EventppVerif.Conc.QueueInv

namespace Evp.Conc

variable {s : State} {u : Nat} {thu : Thread}

theorem step_eq_none {ch : Nat} (hg : s.threads[u]? = some thu) (h : step s u ch = none) :
    finished thu = true ∨ s.qm.isSome = true ∧ holdsM thu.pc = false ∧ isParked thu = false ∨
      isParked thu = true ∧ ch ≠ 0 := by
  revert h
  fun_cases Conc.step s u ch <;> intro h
  all_goals try cases h  -- the arms that return `some`
  all_goals simp_all [finished, holdsM, isParked, getT]

theorem finished_pc (h : finished thu = true) : thu.pc = .idle :=
  (finished_iff.1 h).2

theorem holdsM_not_parked {th : Thread} (h : holdsM th.pc = true) : isParked th = false := by
  unfold isParked
  split
  · rw [‹th.pc = _›] at h; cases h
  · rfl

/-- with `queueListMutex` free, every unfinished thread can take a micro-step
    (a parked thread: its spurious wake-up) -/
theorem step_isSome_of_free (hg : s.threads[u]? = some thu) (hf : finished thu = false) (hqm : s.qm = none) :
    (step s u 0).isSome = true :=
  Option.isSome_iff_ne_none.mpr fun h => by
    rcases step_eq_none hg h with h1 | ⟨h1, _⟩ | ⟨_, h1⟩
    · rw [hf] at h1; cases h1
    · rw [hqm] at h1; cases h1
    · exact h1 rfl

theorem step_isSome_of_holder (hg : s.threads[u]? = some thu) (hh : holdsM thu.pc = true) :
    (step s u 0).isSome = true :=
  Option.isSome_iff_ne_none.mpr fun h => by
    rcases step_eq_none hg h with h1 | ⟨_, h1, _⟩ | ⟨h1, _⟩
    · rw [finished_pc h1] at hh; cases hh
    · rw [hh] at h1; cases h1
    · rw [holdsM_not_parked hh] at h1; cases h1

theorem step_isSome_of_parked (hg : s.threads[u]? = some thu) (hp : isParked thu = true) :
    (step s u 0).isSome = true :=
  Option.isSome_iff_ne_none.mpr fun h => by
    rcases step_eq_none hg h with h1 | ⟨_, _, h1⟩ | ⟨_, h1⟩
    · rw [isParked, finished_pc h1] at hp; cases hp
    · rw [hp] at h1; cases h1
    · exact h1 rfl

theorem holdsM_iff (pc : PC) : holdsM pc = true ↔
    (∃ timed ato, pc = .waitRead1 timed ato) ∨ (∃ timed ato, pc = .waitRead2 timed ato) ∨
    (∃ timed ato ne, pc = .waitRead3 timed ato ne) ∨ (∃ timed, pc = .waitPark timed) := by
  unfold holdsM
  split <;> simp_all

end Evp.Conc
