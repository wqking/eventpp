/-
  What the invariants of the concurrent queue model (Conc/Queue.lean) are proved from: reachability for either value
  of the `dqnLocked` flag (`ReachF`; `Reach = ReachF · true`), the quantities they speak of (`inflight`, `guardCount`,
  …), and one statement of what a step does to the shared variables, seen from the pc of the stepping thread before
  and after (`step_shared`, with `Move` for the events).  Sums over the threads change by what the stepping thread
  contributes (`step_sum`), since a wake-up by `notify_one` is invisible to them.
-/
import EventppVerif.Conc.QueueStep

namespace Evp.Conc

def ReachF (progs : List (List Call)) (flag : Bool) (s : State) : Prop :=
  ∃ sched, exec (init progs flag) sched = s

theorem reach_iff_reachF {progs : List (List Call)} {s : State} : Reach progs s ↔ ReachF progs true s :=
  Iff.rfl

theorem Reach.reachF {progs : List (List Call)} {s : State} (h : Reach progs s) : ReachF progs true s := h

/-- reachability from an arbitrary state; `ReachF progs flag` is `ReachFrom (init progs flag)` -/
def ReachFrom (s0 : State) (s : State) : Prop := ∃ sched, exec s0 sched = s

theorem reach_iff (progs : List (List Call)) (s : State) : Reach progs s ↔ ReachFrom (init progs true) s :=
  Iff.rfl

theorem ReachF.induction {progs : List (List Call)} {flag : Bool} {P : State → Prop}
    (h0 : P (init progs flag))
    (hstep : ∀ s t ch s', P s → step s t ch = some s' → P s')
    {s : State} (h : ReachF progs flag s) : P s := by
  obtain ⟨sched, rfl⟩ := h
  exact exec_invariant hstep sched _ h0

theorem ReachF.init (progs : List (List Call)) (flag : Bool) : ReachF progs flag (init progs flag) :=
  ⟨[], rfl⟩

theorem ReachF.step {progs : List (List Call)} {flag : Bool} {s s' : State} {t : Tid} {ch : Nat}
    (h : ReachF progs flag s) (hs : step s t ch = some s') : ReachF progs flag s' := by
  obtain ⟨sched, rfl⟩ := h
  refine ⟨sched ++ [(t, ch)], ?_⟩
  rw [exec_append]
  simp [exec, hs]

theorem ReachF.induction' {progs : List (List Call)} {flag : Bool} {P : State → Prop}
    (h0 : P (Conc.init progs flag))
    (hstep : ∀ s t ch s', ReachF progs flag s → P s → Conc.step s t ch = some s' → P s')
    {s : State} (h : ReachF progs flag s) : P s :=
  (h.induction (P := fun s => ReachF progs flag s ∧ P s) ⟨.init progs flag, h0⟩
    fun s t ch s' hi hs => ⟨hi.1.step hs, hstep s t ch s' hi.1 hi.2 hs⟩).2

/-- the events a thread holds in its local lists -/
def inflightOf : PC → List Nat
  | .procLoop _ todo kept _ => kept ++ todo
  | .procPutBack kept _ => kept
  | _ => []

/-- the thread is between its `++queueEmptyCounter` and its `--queueEmptyCounter` -/
def guardActive : PC → Bool
  | .procTake _ => true
  | .procLoop _ _ _ _ => true
  | .procPutBack _ _ => true
  | .procPbReadNc _ => true
  | .procPbNotify _ => true
  | .procDec _ => true
  | _ => false

/-- the thread holds `queueListMutex` across micro-steps (a waiter evaluating its predicate); the same function as
    `holdsQm` of Conc/WaitDefs.lean, which the statements of C07 use -/
def holdsM : PC → Bool
  | .waitRead1 _ _ => true
  | .waitRead2 _ _ => true
  | .waitRead3 _ _ _ => true
  | .waitPark _ => true
  | _ => false

def inflightL (l : List Thread) : List Nat := l.flatMap (fun th => inflightOf th.pc)

def inflight (s : State) : List Nat := inflightL s.threads

def guardCountL (l : List Thread) : Nat := l.countP (fun th => guardActive th.pc)

def guardCount (s : State) : Nat := guardCountL s.threads

def consumedIds (s : State) : List Nat := s.consumed.map (·.1)

def enqueuedIds (s : State) : List Nat := s.enqueued.map (·.1)

/-- the pcs of the calls that take events out of the queue for good (the processing calls, `takeEvent`, `clearEvents`): a
    thread at any other pc adds nothing to `consumed` (`Move.consumed_of_nonrem`); with a single consumer only that thread
    is ever at one of them (`ReachF.sc`) -/
def remPc : PC → Bool
  | .procPre _ => true
  | .procInc _ => true
  | .procTake _ => true
  | .procLoop _ _ _ _ => true
  | .procPutBack _ _ => true
  | .procPbReadNc _ => true
  | .procPbNotify _ => true
  | .procDec _ => true
  | .takePre => true
  | .takeLocked => true
  | .clearPre => true
  | .clearLocked => true
  | _ => false

section
variable {s s' : State} {t ch : Nat} {th th' : Thread}

theorem sum_map_set {l : List Thread} (h : l[t]? = some th) (g : Thread → Nat) (th' : Thread) :
    ((l.map g).set t (g th')).sum + g th = (l.map g).sum + g th' := by
  induction l generalizing t with
  | nil => simp at h
  | cons z r ih =>
    cases t with
    | zero => simp at h; subst h; simp; omega
    | succ t => simp at h; have := ih h; simp; omega

theorem step_sum {g : PC → Nat} (hg : WakeBlind g) (h : step s t ch = some s') (ht : s.threads[t]? = some th)
    (ht' : s'.threads[t]? = some th') :
    (s'.threads.map fun th => g th.pc).sum + g th.pc = (s.threads.map fun th => g th.pc).sum + g th'.pc := by
  rw [step_map hg h ht']
  exact sum_map_set ht _ th'

end

theorem count_inflightL (a : Nat) (l : List Thread) :
    List.count a (inflightL l) = (l.map fun th => List.count a (inflightOf th.pc)).sum := by
  simp only [inflightL, List.count_flatMap]; rfl

theorem guardCountL_eq_sum (l : List Thread) :
    guardCountL l = (l.map fun th => if guardActive th.pc then 1 else 0).sum := by
  induction l with
  | nil => rfl
  | cons x r ih => simp only [guardCountL, List.countP_cons] at ih ⊢; simp only [ih, List.map_cons, List.sum_cons]; omega

theorem count_inflight_setT {s : State} {t : Tid} {th : Thread} (h : getT s t = some th) (th' : Thread)
    (a : Nat) :
    List.count a (inflight (setT s t th')) + List.count a (inflightOf th.pc) =
      List.count a (inflight s) + List.count a (inflightOf th'.pc) := by
  simp only [inflight, count_inflightL, setT_threads, List.map_set]
  exact sum_map_set h _ th'

theorem guardCount_setT {s : State} {t : Tid} {th : Thread} (h : getT s t = some th) (th' : Thread) :
    guardCount (setT s t th') + (if guardActive th.pc then 1 else 0) =
      guardCount s + (if guardActive th'.pc then 1 else 0) := by
  simp only [guardCount, guardCountL_eq_sum, setT_threads, List.map_set]
  exact sum_map_set h _ th'

@[simp] theorem inflight_notifyOne (s : State) (ch : Nat) : inflight (notifyOne s ch) = inflight s := by
  simp only [inflight, inflightL, List.flatMap_def, map_notifyOne (g := inflightOf) fun _ => rfl]

@[simp] theorem guardCount_notifyOne (s : State) (ch : Nat) : guardCount (notifyOne s ch) = guardCount s := by
  simp only [guardCount, guardCountL_eq_sum, map_notifyOne (g := fun pc => if guardActive pc then 1 else 0) fun _ => rfl]

theorem guardCountL_pos {l : List Thread} {t : Nat} {x : Thread} (h : l[t]? = some x)
    (hx : guardActive x.pc = true) : 0 < guardCountL l :=
  List.countP_pos_iff.mpr ⟨x, List.mem_of_getElem? h, hx⟩

/-- How a micro-step of thread `t`, standing at `pc`, moves events between the queue, the local list of `t`
    (`loc` before, `loc'` after) and `consumed`, and what it does to the id supply (`nextEv`, `enqueued`).
    The steps inside `procLoop` that only regroup `kept ++ todo` are `stay`. -/
inductive Move (t : Tid) (pc : PC) (s s' : State) (loc loc' : List Nat) : Prop
  | stay (hq : s'.queue = s.queue) (hc : s'.consumed = s.consumed) (hn : s'.nextEv = s.nextEv)
      (he : s'.enqueued = s.enqueued) (hl : loc' = loc)
  /-- a fresh id is spliced to the back -/
  | enq (hq : s'.queue = s.queue ++ [s.nextEv]) (hc : s'.consumed = s.consumed)
      (hn : s'.nextEv = s.nextEv + 1) (he : s'.enqueued = s.enqueued ++ [(s.nextEv, t)]) (hl : loc' = loc)
  /-- a front part of the queue (one event, or all) becomes the local list -/
  | take (hq : s.queue = loc' ++ s'.queue) (hc : s'.consumed = s.consumed)
      (hn : s'.nextEv = s.nextEv) (he : s'.enqueued = s.enqueued) (hl : loc = [])
  | dispatch {m e r k any} (hpc : pc = .procLoop m (e :: r) k any) (hq : s'.queue = s.queue)
      (hc : s'.consumed = s.consumed ++ [(e, .dispatched, t)]) (hn : s'.nextEv = s.nextEv)
      (he : s'.enqueued = s.enqueued) (hl : loc = k ++ e :: r) (hl' : loc' = k ++ r)
  /-- the local list returns to the front of the queue -/
  | putBack {any} (hpc : pc = .procPutBack loc any) (hq : s'.queue = loc ++ s.queue) (hc : s'.consumed = s.consumed)
      (hn : s'.nextEv = s.nextEv) (he : s'.enqueued = s.enqueued) (hl : loc' = [])
  /-- a front part of the queue (one event, or all) is taken / cleared -/
  | remove {l} (hw : How) (hr : remPc pc = true) (hq : s.queue = l ++ s'.queue)
      (hc : s'.consumed = s.consumed ++ l.map (fun e => (e, hw, t))) (hn : s'.nextEv = s.nextEv)
      (he : s'.enqueued = s.enqueued) (hl : loc = []) (hl' : loc' = [])

/-- `ec` changes by the thread's own contribution to the guard count; with the truncated subtraction the equation
    holds by `rfl` in every case, `procDec` included.  `qm` is kept, acquired (`waitLock`, `woken`) or released (the
    three returns of `wait`, and `waitPark`). -/
theorem step_shared {s : State} {t ch : Nat} {s' : State} (h : step s t ch = some s') :
    ∃ th th', s.threads[t]? = some th ∧ s'.threads[t]? = some th' ∧
      Move t th.pc s s' (inflightOf th.pc) (inflightOf th'.pc) ∧
      s'.ec = s.ec + (if guardActive th'.pc then 1 else 0) - (if guardActive th.pc then 1 else 0) ∧
      (s'.qm = s.qm ∧ holdsM th'.pc = holdsM th.pc ∨
       s.qm = none ∧ s'.qm = some t ∧ holdsM th.pc = false ∧ holdsM th'.pc = true ∨
       s'.qm = none ∧ holdsM th.pc = true ∧ holdsM th'.pc = false) := by
  obtain ⟨th, pc, hg, hpc, hst⟩ := Step.of_step h
  refine ⟨th, ?_⟩
  rw [hpc]
  cases hst
  case enqNotify | dqnNotify | procPbNotify =>
    rw [notifyOne_eq s ch]
    exact ⟨_, hg, set_self (threads_notifyOne_of hg (by simp [hpc]) ch) _, .stay rfl rfl rfl rfl rfl, rfl, Or.inl ⟨rfl, rfl⟩⟩
  case waitLock hq | woken hq =>
    exact ⟨_, hg, set_self hg _, .stay rfl rfl rfl rfl rfl, rfl, Or.inr (Or.inl ⟨hq, rfl, rfl, rfl⟩)⟩
  case waitRead2Timeout | waitRead3Go | waitRead3Timeout | waitPark =>
    exact ⟨_, hg, set_self hg _, .stay rfl rfl rfl rfl rfl, rfl, Or.inr (Or.inr ⟨rfl, rfl, rfl⟩)⟩
  all_goals refine ⟨_, hg, set_self hg _, ?_, rfl, Or.inl ⟨rfl, rfl⟩⟩
  case enqSplice => exact .enq rfl rfl rfl rfl rfl
  case procTakeOne _ hq => exact .take hq rfl rfl rfl rfl
  case procTake => exact .take (List.append_nil _).symm rfl rfl rfl rfl
  case procLoopDispatch => exact .dispatch rfl rfl rfl rfl rfl rfl rfl
  case procPutBack => exact .putBack rfl rfl rfl rfl rfl rfl
  case takeLocked _ hq => exact .remove (l := [_]) .taken rfl hq rfl rfl rfl rfl rfl
  case clearLocked => exact .remove .cleared rfl (List.append_nil _).symm rfl rfl rfl rfl rfl
  case procLoopKeep => exact .stay rfl rfl rfl rfl (List.append_assoc ..)
  case procLoopKept => exact .stay rfl rfl rfl rfl (List.append_nil _).symm
  all_goals exact .stay rfl rfl rfl rfl rfl

end Evp.Conc
