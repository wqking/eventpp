import EventppVerif.Conc.CListWalk
/-
  The invariant of the concurrent callback-list model (Conc/CList.lean) and its preservation by
  every micro-step of every thread.  `Pend`: the ids allocated at a `draw` and not yet linked; they are
  why `WalkV` and `Linking` carry a pending set.  The step theorem says once what a step does to the
  list object (`list_step`: the new `Rep`, and `Kept` for every thread's part of the invariant),
  carries all other threads over with that (`invW_of_step`), and leaves to each rule of `Step` only
  the stepping thread's own record (`invW_step`).  `Avail` (pending or not yet allocated) only
  shrinks: handles are issued once.
-/
namespace Evp.ConcL

/-- the node a thread has allocated (at its `draw`) and not yet linked -/
def PC.pendId : PC → Option Nat
  | .link _ _ _ id _ => some id
  | _ => none

theorem PC.pendId_eq_some {pc : PC} {id : Nat} (h : pc.pendId = some id) :
    ∃ k cb bf c, pc = .link k cb bf id c := by
  cases pc <;> cases h
  exact ⟨_, _, _, _, rfl⟩

/-- the node a traversing thread holds in its local variable `node` -/
def PC.node : PC → Option Nat
  | .travCap (some n) => some n
  | .travCheck n _ => some n
  | .travCall n _ => some n
  | .travNext n _ => some n
  | _ => none

/-- has the traversal already dealt with the node it stands on? -/
def PC.ex : PC → Bool
  | .travNext _ _ => true
  | _ => false

/-- the generation a traversing thread has captured -/
def PC.cap : PC → Option Nat
  | .travCheck _ c => some c
  | .travCall _ c => some c
  | .travNext _ c => some c
  | _ => none

/-- a traversal that has not yet looked at any node -/
def PC.start : PC → Bool
  | .travStart => true
  | .travCap _ => true
  | _ => false

/-- the micro-steps that are linearization points -/
def PC.isLin : PC → Bool
  | .link _ _ _ _ _ => true
  | .removeCs _ => true
  | .ownsCs _ => true
  | .emptyRead => true
  | _ => false

/-- the public call a program counter belongs to -/
def callOf : PC → Option Call
  | .idle => none
  | .insBefore cb b => some (.insert cb b)
  | .draw k cb b => some (if k = 0 then .append cb else if k = 1 then .prepend cb else .insert cb b)
  | .link k cb b _ _ => some (if k = 0 then .append cb else if k = 1 then .prepend cb else .insert cb b)
  | .removeCs h => some (.remove h)
  | .ownsCs h => some (.owns h)
  | .emptyRead => some .empty
  | .travStart => some .invoke
  | .travCap _ => some .invoke
  | .travCheck _ _ => some .invoke
  | .travCall _ _ => some .invoke
  | .travNext _ _ => some .invoke

/-- the nodes called so far by the invocation in progress -/
def curV (th : Thread) : List Nat := (th.visits.getLast?.getD []).map (·.1)

/-- `id` is allocated but not yet linked: some thread is between its `draw` and its `link` -/
def Pend (ths : List Thread) (id : Nat) : Prop := ∃ (t : Nat) (th : Thread), ths[t]? = some th ∧ th.pc.pendId = some id

/-- **Linearization table.**  The effect on the Spec list, and the result, of the micro-step that a
    thread at program counter `pc` takes.  Only `link`, `removeCs`, `ownsCs` and `emptyRead` have an
    effect or a result: they are the linearization points of the adding, removing and querying
    calls. -/
def specEffect (pc : PC) (SL : SList) : SList × Option Ret :=
  match pc with
  | .link k cb b id _ => (specLink SL k cb b id, some (.handle id))
  | .removeCs h => ((SL.remove h).1, some (.bool (SL.remove h).2))
  | .ownsCs h => (SL, some (.bool (SL.present h)))
  | .emptyRead => (SL, some (.bool SL.isEmpty))
  | _ => (SL, none)

/-- what the invariant says about one thread; `l`, `L`, `b` are the list object, its live chain and
    the allocation bound, `P` the set of pending ids -/
structure ThreadOK (l : CL) (L : List Nat) (b : Nat) (P : Nat → Prop) (th : Thread) : Prop where
  /-- the program counter belongs to the call at the head of the thread's program -/
  call : ∀ c, callOf th.pc = some c → th.prog.head? = some c
  /-- no invocation has called a node twice -/
  vis : ∀ V ∈ th.visits, (V.map (·.1)).Nodup
  /-- a pending link: generation in `[1, cur]`, node allocated and not linked -/
  link : ∀ k cb bf id c, th.pc = .link k cb bf id c →
    1 ≤ c ∧ c ≤ l.cur ∧ id < b ∧ (l.heap id).counter = 0
  start : th.pc.start = true → curV th = []
  /-- a traversal in progress: the structural invariant of its node -/
  walk : ∀ n, th.pc.node = some n → WalkV l.heap L b P (curV th) [] th.pc.ex n
  /-- the nodes in the invocation records are allocated and have been linked -/
  visP : ∀ V ∈ th.visits, ∀ v ∈ V.map (·.1), v < b ∧ ¬ P v
  /-- every invocation record, restricted to the nodes still in the list, is in list order -/
  ord : ∀ V ∈ th.visits, (liveIn l.heap (V.map (·.1))).Sublist L

/-- the invariant, with the Spec list it determines -/
structure InvW (s : State) (SL : SList) : Prop where
  rep : Rep s.list SL s.nextId
  thr : ∀ t th, getT s t = some th → ThreadOK s.list SL.ids s.nextId (Pend s.threads) th
  /-- distinct threads hold distinct pending nodes -/
  uniq : ∀ t u th th' id, getT s t = some th → getT s u = some th' →
    th.pc.pendId = some id → th'.pc.pendId = some id → t = u

def Inv (s : State) : Prop := ∃ SL, InvW s SL

/-- the Spec list a state stands for: the list object read through `head`/`next` -/
def specOf (s : State) : SList := absList s.list (s.nextId + 1)

theorem InvW.spec {s SL} (h : InvW s SL) : specOf s = SL := h.rep.abs

theorem getElem?_set_self' {ths : List Thread} {t : Nat} {th th' : Thread} (hg : ths[t]? = some th) :
    (ths.set t th')[t]? = some th' := by
  rw [List.getElem?_set_self', hg]; rfl

theorem getElem?_set_other' {ths : List Thread} {t v : Nat} {th' : Thread} (hne : v ≠ t) :
    (ths.set t th')[v]? = ths[v]? := by
  rw [List.getElem?_set_ne (Ne.symm hne)]

theorem pend_set_iff {ths : List Thread} {t : Nat} {th th' : Thread} (hg : ths[t]? = some th) (id : Nat) :
    Pend (ths.set t th') id ↔
      (th'.pc.pendId = some id ∨ ∃ v thv, v ≠ t ∧ ths[v]? = some thv ∧ thv.pc.pendId = some id) := by
  constructor
  · rintro ⟨v, thv, h1, h2⟩
    by_cases hv : v = t
    · subst hv
      rw [getElem?_set_self' hg] at h1
      cases h1; exact Or.inl h2
    · rw [getElem?_set_other' hv] at h1
      exact Or.inr ⟨v, thv, hv, h1, h2⟩
  · rintro (h | ⟨v, thv, hv, h1, h2⟩)
    · exact ⟨t, th', getElem?_set_self' hg, h⟩
    · exact ⟨v, thv, by rw [getElem?_set_other' hv]; exact h1, h2⟩

theorem pend_of_other {ths : List Thread} {v : Nat} {thv : Thread} {id : Nat} (h1 : ths[v]? = some thv)
    (h2 : thv.pc.pendId = some id) : Pend ths id := ⟨v, thv, h1, h2⟩

theorem pend_set_sub {ths : List Thread} {t : Nat} {th th' : Thread} (hg : ths[t]? = some th)
    (hp : th'.pc.pendId = none) (id : Nat) (h : Pend (ths.set t th') id) : Pend ths id := by
  rcases (pend_set_iff hg id).mp h with h | ⟨v, thv, _, h1, h2⟩
  · rw [hp] at h; cases h
  · exact ⟨v, thv, h1, h2⟩

theorem ThreadOK.transfer {l l' : CL} {L L' : List Nat} {b b' : Nat} {P P' : Nat → Prop} {th : Thread}
    (h : ThreadOK l L b P th) (k : Kept l L b P l' L' b' P')
    (hcnt : ∀ id, th.pc.pendId = some id → (l.heap id).counter = 0 → (l'.heap id).counter = 0) :
    ThreadOK l' L' b' P' th := by
  refine ⟨h.call, h.vis, ?_, h.start, fun n hn => k.walk _ _ _ _ (h.walk n hn), ?_,
    fun V hV => k.ord _ (h.visP V hV) (h.ord V hV)⟩
  · intro kd cb bf id c hpc
    obtain ⟨a1, a2, a3, a4⟩ := h.link kd cb bf id c hpc
    exact ⟨a1, Nat.le_trans a2 k.cur, Nat.lt_of_lt_of_le a3 k.bound, hcnt id (by rw [hpc]; rfl) a4⟩
  · intro V hV v hv
    obtain ⟨a1, a2⟩ := h.visP V hV v hv
    exact ⟨Nat.lt_of_lt_of_le a1 k.bound, fun hp => a2 (k.pend v a1 hp)⟩

theorem InvW.pend_counter {s SL} (h : InvW s SL) (x : Nat) (hx : Pend s.threads x) :
    (s.list.heap x).counter = 0 ∧ x < s.nextId := by
  obtain ⟨v, thv, h1, h2⟩ := hx
  obtain ⟨k, cb, bf, c, hpc⟩ := PC.pendId_eq_some h2
  obtain ⟨_, _, a3, a4⟩ := (h.thr v thv h1).link _ _ _ _ _ hpc
  exact ⟨a4, a3⟩

theorem InvW.linking {s SL t th k cb bf id c} (h : InvW s SL) (hg : getT s t = some th)
    (hpc : th.pc = .link k cb bf id c) :
    Linking s.list SL s.nextId id cb c (linkOf s.list k cb bf id c) (specLink SL k cb bf id) := by
  obtain ⟨c1, c2, c3, c4⟩ := (h.thr t th hg).link _ _ _ _ _ hpc
  exact linking_linkOf h.rep c3 c4 (by omega) c2

theorem addVisit_visits (th : Thread) (n : Nat) (cb : Cb) :
    (addVisit th n cb).visits = th.visits.dropLast ++ [th.visits.getLast?.getD [] ++ [(n, cb)]] := by
  rcases List.eq_nil_or_concat th.visits with h | ⟨ini, last, h⟩
  · unfold addVisit; rw [h]; simp
  · rw [List.concat_eq_append] at h
    unfold addVisit; rw [h]; simp

theorem addVisit_prog (th : Thread) (n : Nat) (cb : Cb) : (addVisit th n cb).prog = th.prog := by
  unfold addVisit; split <;> rfl
theorem addVisit_rets (th : Thread) (n : Nat) (cb : Cb) : (addVisit th n cb).rets = th.rets := by
  unfold addVisit; split <;> rfl
theorem addVisit_pc (th : Thread) (n : Nat) (cb : Cb) : (addVisit th n cb).pc = th.pc := by
  unfold addVisit; split <;> rfl

theorem addVisit_curV (th : Thread) (n : Nat) (cb : Cb) : curV (addVisit th n cb) = curV th ++ [n] := by
  unfold curV
  rw [addVisit_visits]
  simp

/-- the record of the invocation in progress; `curV th` is its list of nodes,
    `curV th = (curVisit th).map (·.1)` by `rfl` -/
def curVisit (th : Thread) : List (Nat × Cb) := th.visits.getLast?.getD []

theorem addVisit_curVisit (th : Thread) (n : Nat) (cb : Cb) :
    curVisit (addVisit th n cb) = curVisit th ++ [(n, cb)] := by
  unfold curVisit
  rw [addVisit_visits]
  simp

theorem Moves.pend {s : State} {th : Thread} {pc' : PC} (hm : Moves s th pc') : pc'.pendId = none := by
  cases hm <;> rfl

theorem Moves.lin {s : State} {th : Thread} {pc' : PC} (hm : Moves s th pc') : th.pc.isLin = false := by
  cases hm <;> simp only [*, PC.isLin]

theorem specEffect_nonlin {pc : PC} (hl : pc.isLin = false) (SL : SList) : specEffect pc SL = (SL, none) := by
  cases pc <;> first | rfl | cases hl

theorem set_same {ths : List Thread} {t : Nat} {th : Thread} (hg : ths[t]? = some th) : ths.set t th = ths := by
  obtain ⟨h, e⟩ := List.getElem?_eq_some_iff.mp hg
  exact e ▸ List.set_getElem_self h

/-- what a step does to the threads: only thread `t` changes; it holds a pending node afterwards
    only if the step was a (non-wrapping) `draw`, and then it is the node just allocated; its
    program loses its head exactly when a call ends, i.e. at a linearization step or at the end of
    an invocation. -/
structure Shape (s s' : State) (t : Nat) (th th' : Thread) : Prop where
  threads : s'.threads = s.threads.set t th'
  alloc : (th'.pc.pendId = none ∧ s'.nextId = s.nextId) ∨ (th'.pc.pendId = some s.nextId ∧ s'.nextId = s.nextId + 1)
  call : (th'.prog = th.prog ∧ th'.rets = th.rets ∧ th.pc.isLin = false) ∨
    (th'.prog = th.prog.tail ∧ th'.pc = .idle ∧ (th.pc.isLin = true ∨
      (callOf th.pc = some .invoke ∧ th'.rets = th.rets ++ [.unit])))

theorem step_shape {s s' : State} {t : Nat} {th : Thread}
    (hg : getT s t = some th) (hst : Step s t th s') : ∃ th', Shape s s' t th th' := by
  cases hst with
  | move hm => exact ⟨_, rfl, Or.inl ⟨hm.pend, rfl⟩, Or.inl ⟨rfl, rfl, hm.lin⟩⟩
  | invoke hpc _ => exact ⟨_, rfl, Or.inl ⟨rfl, rfl⟩, Or.inl ⟨rfl, rfl, by rw [hpc]; rfl⟩⟩
  | call hpc =>
    exact ⟨_, rfl, Or.inl ⟨rfl, rfl⟩, Or.inl ⟨addVisit_prog _ _ _, addVisit_rets _ _ _, by rw [hpc]; rfl⟩⟩
  | ends he =>
    refine ⟨_, rfl, Or.inl ⟨rfl, rfl⟩, Or.inr ⟨rfl, rfl, ?_⟩⟩
    cases he with
    | owns hpc | empty hpc => exact Or.inl (by rw [hpc]; rfl)
    | noHead hpc | last hpc _ => exact Or.inr ⟨by rw [hpc]; rfl, rfl⟩
  | wrap hpc _ =>
    exact ⟨th, (set_same hg).symm, Or.inl ⟨by rw [hpc]; rfl, rfl⟩, Or.inl ⟨rfl, rfl, by rw [hpc]; rfl⟩⟩
  | draw hpc _ => exact ⟨_, rfl, Or.inr ⟨rfl, rfl⟩, Or.inl ⟨rfl, rfl, by rw [hpc]; rfl⟩⟩
  | link hpc => exact ⟨_, rfl, Or.inl ⟨rfl, rfl⟩, Or.inr ⟨rfl, rfl, Or.inl (by rw [hpc]; rfl)⟩⟩
  | remove hpc => exact ⟨_, rfl, Or.inl ⟨rfl, rfl⟩, Or.inr ⟨rfl, rfl, Or.inl (by rw [hpc]; rfl)⟩⟩

theorem Shape.getT_self {s s' t th th'} (h : Shape s s' t th th') (hg : getT s t = some th) :
    getT s' t = some th' := by
  show s'.threads[t]? = _
  rw [h.threads]; exact getElem?_set_self' hg

theorem Shape.getT_other {s s' t th th' v} (h : Shape s s' t th th') (hv : v ≠ t) :
    getT s' v = getT s v := by
  show s'.threads[v]? = _
  rw [h.threads]; exact getElem?_set_other' hv

theorem Shape.nextId_le {s s' t th th'} (h : Shape s s' t th th') : s.nextId ≤ s'.nextId := by
  rcases h.alloc with e | e <;> omega

/-! ### handles are issued once

  `Avail s x`: the id `x` can still be handed out as a handle by a later `link` — it is pending or
  not yet allocated.  Once unavailable, always unavailable. -/
def Avail (s : State) (x : Nat) : Prop := Pend s.threads x ∨ s.nextId ≤ x

theorem avail_step {s s' : State} {t : Nat} {th : Thread} (hg : getT s t = some th)
    (hst : Step s t th s') (x : Nat) (ha : Avail s' x) : Avail s x := by
  obtain ⟨th', hsh⟩ := step_shape hg hst
  rcases ha with ha | ha
  · rw [hsh.threads] at ha
    rcases (pend_set_iff hg x).mp ha with hp | ⟨v, thv, _, hv1, hv2⟩
    · rcases hsh.alloc with h3 | h3
      · rw [h3.1] at hp; cases hp
      · rw [h3.1] at hp; cases hp; exact Or.inr (Nat.le_refl _)
    · exact Or.inl ⟨v, thv, hv1, hv2⟩
  · exact Or.inr (Nat.le_trans hsh.nextId_le ha)

/-- One step of thread `u`, seen from the list object: it represents the Spec list of the linearization
    table, and every thread's part of the invariant carries over. -/
theorem list_step {s s' : State} {SL : SList} {u : Nat} {thu : Thread} (h : InvW s SL)
    (hg : getT s u = some thu) (hst : Step s u thu s') :
    Rep s'.list (specEffect thu.pc SL).1 s'.nextId ∧
    Kept s.list SL.ids s.nextId (Pend s.threads) s'.list (specEffect thu.pc SL).1.ids s'.nextId (Pend s'.threads) := by
  obtain ⟨_, hsh⟩ := step_shape hg hst
  have hb := hsh.nextId_le
  have hP : ∀ x, x < s.nextId → Pend s'.threads x → Pend s.threads x := fun x hx hp =>
    (avail_step hg hst x (Or.inl hp)).resolve_right (by omega)
  cases hst with
  | link hpc =>
    rw [hpc]
    have lk := h.linking hg hpc
    exact ⟨lk.rep, lk.kept ⟨u, thu, hg, by rw [hpc]; rfl⟩ (pend_set_sub hg rfl)⟩
  | remove hpc =>
    rw [hpc]
    exact ⟨(rep_remove h.rep _).1,
      kept_remove h.rep _ (pend_set_sub hg rfl) (fun x hx => (h.pend_counter x hx).1)⟩
  | draw hpc nw =>
    rw [hpc]
    exact ⟨(rep_nowrap h.rep nw).mono (Nat.le_succ _), .of_heap rfl (Nat.le_succ _) hb hP⟩
  | move hm => rw [specEffect_nonlin hm.lin]; exact ⟨h.rep, .of_heap rfl (Nat.le_refl _) hb hP⟩
  | ends he =>
    cases he with
    | owns hpc | empty hpc | noHead hpc | last hpc _ =>
      rw [hpc]; exact ⟨h.rep, .of_heap rfl (Nat.le_refl _) hb hP⟩
  | invoke hpc _ | call hpc | wrap hpc _ => rw [hpc]; exact ⟨h.rep, .of_heap rfl (Nat.le_refl _) hb hP⟩

/-- a node the stepping thread does not hold keeps its callback, and keeps its generation or is removed -/
theorem node_step {s s' : State} {SL : SList} {u : Nat} {thu : Thread} (h : InvW s SL)
    (hg : getT s u = some thu) (hst : Step s u thu s') (x : Nat) (hx : thu.pc.pendId ≠ some x) :
    (s'.list.heap x).cb = (s.list.heap x).cb ∧
    ((s'.list.heap x).counter = (s.list.heap x).counter ∨ (s'.list.heap x).counter = 0) := by
  cases hst with
  | link hpc =>
    have lk := h.linking hg hpc
    have hne : ¬ x = _ := fun e => hx (by rw [hpc, e]; rfl)
    exact ⟨(lk.cb x).trans (if_neg hne), .inl ((lk.counter x).trans (if_neg hne))⟩
  | remove _ => exact ⟨remove_cb _ _ _, (remove_counter' s.list _ x).symm⟩
  | _ => exact ⟨rfl, .inl rfl⟩

/-- the invariant after a step of thread `t`, from the stepping thread's part alone: the other
    threads are covered by what the step keeps -/
theorem invW_of_step {s s' : State} {SL : SList} {t : Nat} {th th' : Thread} (h : InvW s SL)
    (hg : getT s t = some th) (hst : Step s t th s') (hg' : getT s' t = some th')
    (hown : ThreadOK s'.list (specEffect th.pc SL).1.ids s'.nextId (Pend s'.threads) th') :
    InvW s' (specEffect th.pc SL).1 := by
  obtain ⟨th'', hsh⟩ := step_shape hg hst
  obtain rfl : th' = th'' := Option.some.inj (hg'.symm.trans (hsh.getT_self hg))
  refine ⟨(list_step h hg hst).1, fun v thv hv => ?_, fun v w thv thw id hv hw pv pw => ?_⟩
  · by_cases hvt : v = t
    · subst hvt
      rw [hg'] at hv
      cases hv; exact hown
    · rw [hsh.getT_other hvt] at hv
      -- the node another thread holds is not the stepping thread's
      exact (h.thr v thv hv).transfer (list_step h hg hst).2 fun id hp h0 =>
        (node_step h hg hst id fun e => hvt (h.uniq v t thv th id hv hg hp e)).2.elim
          (fun e => e.trans h0) (fun e => e)
  · -- a node the stepping thread holds afterwards is new: no other thread holds it
    have key : ∀ {x thx}, x ≠ t → getT s' x = some thx → thx.pc.pendId = some id →
        th'.pc.pendId = some id → False := by
      intro x thx hxt hx px p'
      rw [hsh.getT_other hxt] at hx
      have := (h.pend_counter id ⟨x, thx, hx, px⟩).2
      rcases hsh.alloc with e | e
      · rw [e.1] at p'; cases p'
      · rw [e.1] at p'; cases p'; omega
    by_cases hvt : v = t <;> by_cases hwt : w = t
    · rw [hvt, hwt]
    · subst hvt
      rw [hg'] at hv
      cases hv; exact (key hwt hw pw pv).elim
    · subst hwt
      rw [hg'] at hw
      cases hw; exact (key hvt hv pv pw).elim
    · rw [hsh.getT_other hvt] at hv
      rw [hsh.getT_other hwt] at hw
      exact h.uniq v w thv thw id hv hw pv pw

/-- the same when the stepping thread's new record holds no node and is justified in the state
    before the step -/
theorem invW_of_step_pre {s s' : State} {SL : SList} {t : Nat} {th th' : Thread} (h : InvW s SL)
    (hg : getT s t = some th) (hst : Step s t th s') (hg' : getT s' t = some th')
    (hp : th'.pc.pendId = none) (hown : ThreadOK s.list SL.ids s.nextId (Pend s.threads) th') :
    InvW s' (specEffect th.pc SL).1 :=
  invW_of_step h hg hst hg' (hown.transfer (list_step h hg hst).2 (by rw [hp]; nofun))

theorem ThreadOK.finish {l : CL} {L : List Nat} {b : Nat} {P : Nat → Prop} {th : Thread}
    (h : ThreadOK l L b P th) (p : List Call) (r : List Ret) :
    ThreadOK l L b P { th with pc := .idle, prog := p, rets := r } := by
  refine ⟨by simp [callOf], h.vis, ?_, by simp [PC.start], by simp [PC.node], h.visP, h.ord⟩
  intro k cb bf id c hpc
  cases hpc

theorem ThreadOK.records {l : CL} {L : List Nat} {b : Nat} {P : Nat → Prop} {th : Thread}
    (h : ThreadOK l L b P th) {vs : List (List (Nat × Cb))} {W : List Nat}
    (hrec : ∀ V ∈ vs, V ∈ th.visits ∨ V.map (·.1) = W) (h1 : W.Nodup) (h2 : ∀ v ∈ W, v < b ∧ ¬ P v)
    (h3 : (liveIn l.heap W).Sublist L) :
    (∀ V ∈ vs, (V.map (·.1)).Nodup) ∧ (∀ V ∈ vs, ∀ v ∈ V.map (·.1), v < b ∧ ¬ P v) ∧
      ∀ V ∈ vs, (liveIn l.heap (V.map (·.1))).Sublist L :=
  ⟨fun V hV => (hrec V hV).elim (h.vis V) (fun e => e ▸ h1),
    fun V hV => (hrec V hV).elim (h.visP V) (fun e => e ▸ h2),
    fun V hV => (hrec V hV).elim (h.ord V) (fun e => e ▸ h3)⟩

/-- The traversal part of a thread's record, relative to a set `G` of nodes owed a call: `[]` in the
    invariant, the ids in the list at an earlier state in Conc/CListVisit.lean.  The nodes of `G` can no
    longer be handed out (`owed`), so a traversal that reads `head` finds those still in the list; the
    captured generation bounds their generations, so none of them fails the guard. -/
structure TravOK (l : CL) (L : List Nat) (b : Nat) (P : Nat → Prop) (th : Thread) (G : List Nat) : Prop where
  owed : ∀ x ∈ G, x < b ∧ ¬ P x
  start : th.pc.start = true → curV th = []
  empty : th.pc = .travCap none → ∀ x ∈ G, (l.heap x).counter = 0
  walk : ∀ n, th.pc.node = some n → WalkV l.heap L b P (curV th) G th.pc.ex n
  cap : ∀ c, th.pc.cap = some c → ∀ x ∈ G, (l.heap x).counter ≠ 0 → (l.heap x).counter ≤ c

theorem ThreadOK.trav {l : CL} {L : List Nat} {b : Nat} {P : Nat → Prop} {th : Thread} (h : ThreadOK l L b P th) :
    TravOK l L b P th [] :=
  ⟨nofun, h.start, fun _ => nofun, h.walk, fun _ _ => nofun⟩

/-- outside a traversal there is nothing to say -/
theorem TravOK.off {l : CL} {L : List Nat} {b : Nat} {P : Nat → Prop} {th : Thread} {G : List Nat}
    (ho : ∀ x ∈ G, x < b ∧ ¬ P x) (h1 : th.pc.start = false) (h2 : th.pc.node = none) (h3 : th.pc.cap = none) :
    TravOK l L b P th G := by
  refine ⟨ho, fun h => ?_, fun h => ?_, fun _ h => ?_, fun _ h => ?_⟩
  · rw [h1] at h; cases h
  · rw [h] at h1; cases h1
  · rw [h2] at h; cases h
  · rw [h3] at h; cases h

theorem TravOK.transfer {l l' : CL} {L L' : List Nat} {b b' : Nat} {P P' : Nat → Prop} {th : Thread} {G : List Nat}
    (w : TravOK l L b P th G) (k : Kept l L b P l' L' b' P')
    (hc : ∀ x ∈ G, (l'.heap x).counter = (l.heap x).counter ∨ (l'.heap x).counter = 0) :
    TravOK l' L' b' P' th G :=
  ⟨fun x hx => ⟨Nat.lt_of_lt_of_le (w.owed x hx).1 k.bound, fun hp => (w.owed x hx).2 (k.pend x (w.owed x hx).1 hp)⟩,
    w.start, fun hn x hx => (hc x hx).elim (fun e => e.trans (w.empty hn x hx)) id,
    fun n hn => k.walk _ _ _ _ (w.walk n hn),
    fun c hcap x hx hl => (hc x hx).elim (fun e => e ▸ w.cap c hcap x hx (e ▸ hl)) (fun e => absurd e hl)⟩

theorem Moves.travOK {s : State} {SL : SList} {th : Thread} {pc' : PC} {G : List Nat}
    (r : Rep s.list SL s.nextId) (hm : Moves s th pc')
    (w : TravOK s.list SL.ids s.nextId (Pend s.threads) th G) :
    TravOK s.list SL.ids s.nextId (Pend s.threads) { th with pc := pc' } G := by
  have hwalk : ∀ {pc n}, th.pc = pc → pc.node = some n →
      WalkV s.list.heap SL.ids s.nextId (Pend s.threads) (curV th) G pc.ex n :=
    fun hpc hn => hpc ▸ w.walk _ (hpc ▸ hn)
  have hcap : ∀ {pc c}, th.pc = pc → pc.cap = some c →
      ∀ x ∈ G, (s.list.heap x).counter ≠ 0 → (s.list.heap x).counter ≤ c :=
    fun hpc hc => w.cap _ (hpc ▸ hc)
  cases hm with
  | append | prepend | insert | remove | owns | empty | lock => exact .off w.owed rfl rfl rfl
  | head hpc =>
    have hV : curV th = [] := w.start (by rw [hpc]; rfl)
    refine ⟨w.owed, fun _ => hV, fun hn x _ => Decidable.byContradiction fun hl => ?_, fun n hn => ?_, nofun⟩
    · -- `head` is null only if the list is empty
      have := r.wf.head_eq
      rw [PC.travCap.inj hn] at this
      have hm := (r.wf.live x).mpr hl
      rw [List.head?_eq_none_iff.mp this.symm] at hm; cases hm
    · show WalkV _ _ _ _ (curV th) G false n
      rw [hV]
      cases hh : s.list.head with
      | none => rw [hh] at hn; cases hn
      | some m => rw [hh] at hn; cases hn; exact walkV_head r hh w.owed
  -- `(… :)`: elaborated without the goal, which would take `pc` to be the new program counter; `hpc`
  -- gives the old one, whose `ex` flag is the same by computation
  | cap hpc =>
    -- the captured generation bounds the generations in the list
    refine ⟨w.owed, nofun, nofun, fun n hn => ?_, fun c hc x _ hl => ?_⟩
    · cases hn; exact (hwalk hpc rfl :)
    · cases hc; exact r.wf.cnt x ((r.wf.live x).mpr hl)
  | pass hpc _ =>
    exact ⟨w.owed, nofun, nofun, fun n hn => by cases hn; exact (hwalk hpc rfl :),
      fun c hc => by cases hc; exact hcap hpc rfl⟩
  | skip hpc hgd =>
    refine ⟨w.owed, nofun, nofun, fun n hn => ?_, fun c hc => by cases hc; exact hcap hpc rfl⟩
    cases hn
    -- a node that is owed a call and still in the list passes the guard
    refine (hwalk hpc rfl :).ex_true (fun hnG hl => ?_)
    have := hcap hpc rfl _ hnG hl
    simp [guard, hl, this] at hgd
  | next hpc hnx =>
    exact ⟨w.owed, nofun, nofun, fun n hn => by cases hn; exact walkV_next r (hwalk hpc rfl :) hnx,
      fun c hc => by cases hc; exact hcap hpc rfl⟩

theorem TravOK.call {s : State} {SL : SList} {th : Thread} {n cap : Nat} {G : List Nat} (h : InvW s SL)
    (hpc : th.pc = .travCall n cap) (w : TravOK s.list SL.ids s.nextId (Pend s.threads) th G) :
    TravOK s.list SL.ids s.nextId (Pend s.threads)
      { addVisit th n (s.list.heap n).cb with pc := .travNext n cap } G := by
  have hw := w.walk n (by rw [hpc]; rfl)
  rw [hpc] at hw
  refine ⟨w.owed, nofun, nofun, fun n' hn' => ?_, fun c hc => by cases hc; exact w.cap cap (by rw [hpc]; rfl)⟩
  cases hn'
  show WalkV _ _ _ _ (curV (addVisit th n _)) G true n
  rw [addVisit_curV]
  exact walkV_visit h.rep (fun x hx => (h.pend_counter x hx).1) hw

theorem Moves.threadOK {s : State} {SL : SList} {t : Nat} {th : Thread} {pc' : PC} (h : InvW s SL)
    (hg : getT s t = some th) (hm : Moves s th pc') :
    ThreadOK s.list SL.ids s.nextId (Pend s.threads) { th with pc := pc' } := by
  have ht := h.thr t th hg
  have w := hm.travOK h.rep ht.trav
  refine ⟨fun c hc => ?_, ht.vis, fun k cb bf id c hpc => ?_, w.start, w.walk, ht.visP, ht.ord⟩
  · cases hm with
    | append _ hprog | prepend _ hprog | insert _ hprog | remove _ hprog | owns _ hprog | empty _ hprog =>
      rw [hprog]; exact hc
    | lock hpc | head hpc | cap hpc | pass hpc _ | skip hpc _ | next hpc _ =>
      exact ht.call c (by rw [hpc]; exact hc)
  · have := hm.pend
    rw [show pc' = .link k cb bf id c from hpc] at this
    cases this

theorem invW_step {s s' : State} {SL : SList} {t : Nat} {th : Thread} (h : InvW s SL)
    (hg : getT s t = some th) (hst : Step s t th s') : InvW s' (specEffect th.pc SL).1 := by
  have ht := h.thr t th hg
  -- a step that ends the call; the list object may change
  have fin : ∀ {l' r}, Step s t th (finish { s with list := l' } t th r) → InvW _ (specEffect th.pc SL).1 :=
    fun hst => invW_of_step_pre h hg hst (getElem?_set_self' hg) rfl (ht.finish _ _)
  cases hst with
  | move hm => exact invW_of_step_pre h hg (.move hm) (getElem?_set_self' hg) hm.pend (hm.threadOK h hg)
  | invoke hpc hprog =>
    -- the records afterwards: the old ones and an empty one
    obtain ⟨f1, f2, f3⟩ := ht.records (vs := th.visits ++ [[]]) (W := [])
      (fun V hV => (List.mem_append.mp hV).imp_right fun e => by rw [List.mem_singleton.mp e]; rfl)
      .nil nofun (List.nil_sublist _)
    refine invW_of_step_pre h hg (.invoke hpc hprog) (getElem?_set_self' hg) rfl
      ⟨fun c hc => ?_, f1, nofun, fun _ => ?_, nofun, f2, f3⟩
    · cases hc; rw [hprog]; rfl
    · simp [curV]
  | @call n cap hpc =>
    have w := ht.trav.call h hpc
    have hw' := w.walk n rfl
    -- the records afterwards: the old ones, the last one extended by `n`
    obtain ⟨f1, f2, f3⟩ := ht.records (vs := (addVisit th n (s.list.heap n).cb).visits)
      (fun V hV => by
        rw [addVisit_visits] at hV
        rcases List.mem_append.mp hV with hV | hV
        · exact Or.inl (List.dropLast_subset _ hV)
        · rw [List.mem_singleton.mp hV]
          right; simp [curV, addVisit_visits])
      hw'.2.1 hw'.1 (walkV_ord hw')
    refine invW_of_step_pre h hg (.call hpc) (getElem?_set_self' hg) rfl
      ⟨fun c hc => ?_, f1, nofun, w.start, w.walk, f2, f3⟩
    show (addVisit th n _).prog.head? = some c
    rw [addVisit_prog]
    exact ht.call c (by rw [hpc]; exact hc)
  | ends he => exact fin (.ends he)
  | wrap hpc hw => exact invW_of_step_pre h hg (.wrap hpc hw) hg (by rw [hpc]; rfl) ht
  | @draw k cb bf hpc nw =>
    have hst : Step s t th _ := .draw hpc nw
    -- apart from the pending link, the thread's record satisfies what it satisfied at `draw`
    have ht' := ht.transfer (list_step h hg hst).2 (fun id hp => by rw [hpc] at hp; cases hp)
    refine invW_of_step h hg hst (getElem?_set_self' hg)
      ⟨fun c hc => ht'.call c (by rw [hpc]; exact hc), ht'.vis, ?_, nofun, nofun, ht'.visP, ht'.ord⟩
    intro k' cb' bf' id c hpc'
    cases hpc'
    exact ⟨Nat.succ_le_succ (Nat.zero_le _), Nat.le_refl _, Nat.lt_succ_self _,
      h.rep.fresh s.nextId (Nat.le_refl _)⟩
  | link hpc => exact fin (.link hpc)
  | remove hpc => exact fin (.remove hpc)

/-- a step for which the linearization table gives a result records that result and ends the call -/
theorem step_result {s s' : State} {SL : SList} {t : Nat} {th : Thread} {r : Ret} (h : InvW s SL)
    (hg : getT s t = some th) (hst : Step s t th s') (hr : (specEffect th.pc SL).2 = some r) :
    ∃ th', getT s' t = some th' ∧ th'.rets = th.rets ++ [r] ∧ th'.prog = th.prog.tail ∧ th'.pc = .idle := by
  have fin : ∀ {l'}, ∃ th', getT (finish { s with list := l' } t th r) t = some th' ∧ th'.rets = th.rets ++ [r] ∧
      th'.prog = th.prog.tail ∧ th'.pc = .idle := ⟨_, getElem?_set_self' hg, rfl, rfl, rfl⟩
  cases hst with
  | move hm => rw [specEffect_nonlin hm.lin] at hr; cases hr
  | invoke hpc _ | call hpc | wrap hpc _ | draw hpc _ => rw [hpc] at hr; cases hr
  | ends he =>
    cases he with
    | owns hpc => rw [hpc] at hr; cases hr; rw [rep_owns h.rep]; exact fin
    | empty hpc => rw [hpc] at hr; cases hr; rw [rep_isEmpty h.rep]; exact fin
    | noHead hpc | last hpc _ => rw [hpc] at hr; cases hr
  | link hpc => rw [hpc] at hr; cases hr; exact fin
  | @remove hd hpc => rw [hpc] at hr; cases hr; rw [(rep_remove h.rep hd).2]; exact fin

theorem InvW.avail_not_mem {s SL} (h : InvW s SL) {x : Nat} (ha : Avail s x) : x ∉ SL.ids := by
  intro hm
  rcases ha with ha | ha
  · exact (h.rep.wf.live x).mp hm (h.pend_counter x ha).1
  · have := h.rep.wf.lt x hm; omega

theorem avail_link {s s' : State} {SL : SList} {t : Nat} {th : Thread} {k cb bf id c} (h : InvW s SL)
    (hg : getT s t = some th) (hst : Step s t th s') (hpc : th.pc = .link k cb bf id c) :
    Avail s id ∧ ¬ Avail s' id := by
  obtain ⟨th', h1, h2, h3⟩ := step_shape hg hst
  have hidle : th'.pc = .idle := by
    rcases h3 with h3 | h3
    · rw [hpc] at h3; exact absurd h3.2.2 (by simp [PC.isLin])
    · exact h3.2.1
  have hpend : Pend s.threads id := ⟨t, th, hg, by rw [hpc]; rfl⟩
  refine ⟨Or.inl hpend, ?_⟩
  rintro (ha | ha)
  · rw [h1] at ha
    rcases (pend_set_iff hg id).mp ha with hp | ⟨v, thv, hvt, hv1, hv2⟩
    · rw [hidle] at hp; cases hp
    · exact hvt (h.uniq v t thv th id hv1 hg hv2 (by rw [hpc]; rfl))
  · have := (h.pend_counter id hpend).2
    rw [hidle] at h2
    rcases h2 with e | e
    · omega
    · cases e.1

theorem invW_init (progs : List (List Call)) : InvW (init progs) [] := by
  -- every thread is idle and has no invocation record
  have hidle : ∀ t th, getT (init progs) t = some th → ∃ p, th = { prog := p } := by
    intro t th hg
    obtain ⟨p, _, rfl⟩ := List.mem_map.mp (List.mem_of_getElem? hg)
    exact ⟨p, rfl⟩
  refine ⟨Rep.empty 0, fun t th hg => ?_, fun t u th th' id hg _ hp _ => ?_⟩
  · obtain ⟨p, rfl⟩ := hidle t th hg
    exact ⟨nofun, nofun, nofun, nofun, nofun, nofun, nofun⟩
  · obtain ⟨p, rfl⟩ := hidle t th hg
    cases hp

theorem inv_step {s s' : State} {t : Nat} (h : Inv s) (hs : step s t = some s') : Inv s' := by
  obtain ⟨SL, h⟩ := h
  obtain ⟨th, hg⟩ := step_getT hs
  exact ⟨_, invW_step h hg (step_sound hg hs)⟩

theorem inv_exec {s : State} (h : Inv s) (sched : List Nat) : Inv (exec s sched) := by
  induction sched generalizing s with
  | nil => exact h
  | cons t r ih =>
    unfold exec
    cases hs : step s t with
    | none => exact ih h
    | some s' => exact ih (inv_step h hs)

theorem inv_reach {progs : List (List Call)} {s : State} (h : Reach progs s) : Inv s := by
  obtain ⟨sched, rfl⟩ := h
  exact inv_exec ⟨[], invW_init progs⟩ sched

end Evp.ConcL
