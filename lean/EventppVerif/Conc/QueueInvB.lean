/-
  Programs WITHOUT `processIf` and WITHOUT `processUntil` (non-selective consumers): nothing is ever put back.  So
  every processing call has mode 0/1, `kept = []` and never reaches `procPutBack` (`NoIfInv`); `queue` is a
  contiguous id range `[a, nextEv)` (`QRange`); per thread the ids it consumed, then its local `todo`, then the queue
  are increasing (`ReachF.ord`); and once an `emptyQueue` call has read the list as empty, no event spliced in before
  the call began is in the list, now or later (`EmptyInv`).
-/
import EventppVerif.Conc.QueueInvA
import EventppVerif.Conc.QueueRuns
namespace Evp.Conc
open List

/-- no call of the family puts events back: neither `processIf` nor `processUntil` occurs.  A put-back breaks
    `QRange`, and with several consumers also the per-thread order (`C06_processUntil_two_consumers_out_of_order`);
    programs WITH `processUntil` are covered by the single-consumer theory, Conc/QueueInvC.lean. -/
def NoIf (progs : List (List Call)) : Prop :=
  ∀ p ∈ progs, ∀ c ∈ p, ∀ k, c ≠ Call.processIf k ∧ c ≠ Call.processUntil k

def pcOK : PC → Prop
  | .procPre m => m ≤ 1
  | .procInc m => m ≤ 1
  | .procTake m => m ≤ 1
  | .procLoop m _ kept _ => m ≤ 1 ∧ kept = []
  | .procPutBack _ _ => False
  | .procPbReadNc _ => False
  | .procPbNotify _ => False
  | _ => True

theorem pcOK_procPre (m : Nat) : pcOK (.procPre m) = (m ≤ 1) := rfl
theorem pcOK_procInc (m : Nat) : pcOK (.procInc m) = (m ≤ 1) := rfl
theorem pcOK_procTake (m : Nat) : pcOK (.procTake m) = (m ≤ 1) := rfl
theorem pcOK_procLoop (m : Nat) (todo kept : List Nat) (any : Bool) :
    pcOK (.procLoop m todo kept any) = (m ≤ 1 ∧ kept = []) := rfl
theorem pcOK_procPutBack (kept : List Nat) (any : Bool) : pcOK (.procPutBack kept any) = False := rfl
theorem pcOK_procPbReadNc (any : Bool) : pcOK (.procPbReadNc any) = False := rfl
theorem pcOK_procPbNotify (any : Bool) : pcOK (.procPbNotify any) = False := rfl

def thOK (th : Thread) : Prop :=
  (∀ c ∈ th.prog, ∀ k, c ≠ Call.processIf k ∧ c ≠ Call.processUntil k) ∧ pcOK th.pc

def NoIfInv (s : State) : Prop := ∀ (u : Nat) thu, s.threads[u]? = some thu → thOK thu

variable {progs : List (List Call)} {flag : Bool} {s s' : State} {t ch : Nat}

theorem modeOf_le_one {c : Call} {m : Nat} (hc : ∀ k, c ≠ .processIf k ∧ c ≠ .processUntil k)
    (h : modeOf c = some m) : m ≤ 1 := by
  cases c
  case process | processOne => cases h; omega
  case processIf k => exact absurd rfl (hc k).1
  case processUntil k => exact absurd rfl (hc k).2
  all_goals cases h

theorem pcOK_of_fits {c : Call} {pc : PC} (hc : ∀ k, c ≠ .processIf k ∧ c ≠ .processUntil k) (hf : fits c pc) :
    pcOK pc := by
  cases pc
  case procPre | procInc | procTake => exact modeOf_le_one hc hf
  case procLoop =>
    have := modeOf_le_one hc hf.1
    exact ⟨this, Classical.byContradiction fun hk => by have := hf.2 hk; omega⟩
  case procPutBack | procPbReadNc | procPbNotify =>
    obtain ⟨m, h1, h2⟩ := hf
    have := modeOf_le_one hc h1
    omega
  all_goals exact trivial

theorem ReachF.noIf {progs : List (List Call)} {flag : Bool} {s : State} (hno : NoIf progs)
    (h : ReachF progs flag s) : NoIfInv s := by
  intro u thu hu
  obtain ⟨p, hp, hr⟩ := h.runs u thu hu
  have hall := hno p (List.mem_of_getElem? hp)
  exact ⟨fun c hc => hall c (hr.1.subset hc), hr.pc_cases trivial fun c hc hf => pcOK_of_fits (hall c hc) hf⟩

theorem NoIfInv.no_putBack (hno : NoIfInv s) {th : Thread} (hg : s.threads[t]? = some th)
    (kept : List Nat) (any : Bool) : th.pc ≠ .procPutBack kept any := by
  intro hpc
  have := (hno t th hg).2
  rw [hpc] at this
  exact this

def QRange (s : State) : Prop := ∃ a, a ≤ s.nextEv ∧ s.queue = List.range' a (s.nextEv - a)

theorem QRange.step (hinv : QRange s) (hno : NoIfInv s)
    (h : Conc.step s t ch = some s') : QRange s' := by
  obtain ⟨a, ha, hq⟩ := hinv
  obtain ⟨th, _, hg, -, hm, -⟩ := step_shared h
  rcases hm.queue_cases (hno.no_putBack hg) with ⟨⟨l, hq'⟩, hn⟩ | ⟨hq', hn⟩
  · obtain ⟨k, hk, -, h2⟩ := List.range'_eq_append_iff.mp (hq.symm.trans hq')
    exact ⟨a + k, by omega, by rw [h2, hn]; congr 1 <;> omega⟩
  · refine ⟨a, by omega, ?_⟩
    rw [hq', hn, hq, show s.nextEv + 1 - a = (s.nextEv - a) + 1 by omega, List.range'_concat]
    simp; omega

theorem ReachF.qrange {progs : List (List Call)} {flag : Bool} {s : State} (hno : NoIf progs)
    (h : ReachF progs flag s) : QRange s :=
  h.induction' ⟨0, Nat.le_refl _, rfl⟩ fun _ _ _ _ hr hi hs => hi.step (hr.noIf hno) hs

theorem QRange.lt_nextEv {s : State} (h : QRange s) : ∀ y ∈ s.queue, y < s.nextEv := by
  obtain ⟨a, ha, hq⟩ := h
  intro y hy
  rw [hq, List.mem_range'_1] at hy
  omega

theorem ReachF.ord (hno : NoIf progs) (h : ReachF progs flag s) (u : Tid) : Ord s u :=
  h.ord_of fun s t th hr hg =>
    ⟨fun _ m todo kept any hpc => by
      have := (hr.noIf hno t th hg).2
      rw [hpc] at this
      exact this.2,
    fun _ => (hr.noIf hno).no_putBack hg⟩

def emptyOK (s : State) : PC → Prop
  | .emptyRead1 seen => seen ≤ s.nextEv
  | .emptyRead2 seen => seen ≤ s.nextEv ∧ ∀ e, e < seen → e ∉ s.queue
  | _ => True

def EmptyInv (s : State) : Prop := ∀ (u : Nat) thu, s.threads[u]? = some thu → emptyOK s thu.pc

theorem emptyOK_mono (h1 : s.nextEv ≤ s'.nextEv) (h2 : ∀ y ∈ s'.queue, y ∈ s.queue ∨ s.nextEv ≤ y) (pc : PC)
    (h : emptyOK s pc) : emptyOK s' pc := by
  cases pc
  case emptyRead1 => exact Nat.le_trans h h1
  case emptyRead2 =>
    exact ⟨Nat.le_trans h.1 h1, fun e he hm => (h2 e hm).elim (h.2 e he) fun h3 => by have := h.1; omega⟩
  all_goals exact trivial

/-- the stepping thread: `seen` is set when the call begins; the first read finds the list empty -/
theorem empty_self (h : step s t ch = some s') (th : Thread)
    (hg : s.threads[t]? = some th) (hOK : emptyOK s th.pc) :
    ∃ th', s'.threads[t]? = some th' ∧ emptyOK s' th'.pc := by
  obtain ⟨th2, pc, hg2, hpc, hst⟩ := Step.of_step h
  cases hg.symm.trans hg2
  rw [hpc] at hOK
  cases hst
  case enqNotify | dqnNotify | procPbNotify =>
    exact ⟨_, set_self (threads_notifyOne_of hg (by simp [hpc]) ch) _, trivial⟩
  all_goals refine ⟨_, set_self hg _, ?_⟩
  case idleEmpty => exact Nat.le_refl _
  case emptyRead1T hq => exact ⟨hOK, fun e _ (hm : e ∈ s.queue) => by rw [hq] at hm; cases hm⟩
  all_goals exact trivial

theorem EmptyInv.step (hinv : EmptyInv s) (hno : NoIfInv s) (h : Conc.step s t ch = some s') : EmptyInv s' := by
  obtain ⟨th, _, hg, -, hm, -⟩ := step_shared h
  -- ids are never reused and, without put-back, what enters the queue is fresh
  obtain ⟨h1, h2⟩ : s.nextEv ≤ s'.nextEv ∧ ∀ y ∈ s'.queue, y ∈ s.queue ∨ s.nextEv ≤ y := by
    rcases hm.queue_cases (hno.no_putBack hg) with ⟨⟨l, hq⟩, hn⟩ | ⟨hq, hn⟩
    · exact ⟨by omega, fun y hy => Or.inl (by rw [hq]; exact List.mem_append_right _ hy)⟩
    · refine ⟨by omega, fun y hy => ?_⟩
      rw [hq, List.mem_append, List.mem_singleton] at hy
      exact hy.imp id fun h => Nat.le_of_eq h.symm
  exact step_lift (Q := fun _ thu => emptyOK s' thu.pc) h (fun _ _ _ _ _ => trivial)
    (empty_self h th hg (hinv t th hg)) fun u thu _ hu => emptyOK_mono h1 h2 _ (hinv u thu hu)

theorem ReachF.empty (hno : NoIf progs) (h : ReachF progs flag s) : EmptyInv s :=
  h.induction' (fun u thu h => by rw [init_pc h]; trivial) fun _ _ _ _ hr hi hs => hi.step (hr.noIf hno) hs

end Evp.Conc
