/-
  Concurrent model of one prototype slot of `HeterCallbackList` (hetercallbacklist.h,
  `doGetCallbackList`): the per-prototype callback list is created lazily with double-checked
  locking —
      if(! callbackListList[i]) { lock(callbackListListMutex); if(! callbackListList[i]) callbackListList[i] = make_shared<List>(); }
      return callbackListList[i];
  — and the callback is then appended to the list that was returned.

  Micro-steps of one `append` (every access to the slot made without the mutex is its own step; the
  critical section is one step; the append to the underlying list is one step — its own concurrency
  is C03's list model):
    `read1`  unlocked test of the slot
    `cs`     critical section: re-test, create if still empty            (only if `read1` saw null)
    `read2`  the `return callbackListList[i]` read
    `app`    append to the list read by `read2`
  `recheck = false` is the variant without the inner re-test (used for the counter-example only).
  Sequential consistency is assumed for the unlocked reads.
-/
namespace Evp.HSlot

abbrev Tid := Nat

inductive PC
  | idle
  | afterRead1 (sawNull : Bool)
  | afterCs
  | afterRead2 (l : Nat)
deriving DecidableEq, Repr

structure Thread where
  /-- callbacks still to append -/
  prog : List Nat := []
  pc : PC := .idle
  /-- callbacks whose `append` has returned, oldest first -/
  done : List Nat := []
deriving DecidableEq, Repr

structure State where
  threads : List Thread := []
  /-- `callbackListList[i]`: the id of the list object it points to -/
  slot : Option Nat := none
  /-- content of every list object ever created, by id -/
  lists : List (List Nat) := []
  recheck : Bool := true
  /-- ghost: the callbacks whose `append` has returned, in the order in which they returned -/
  log : List Nat := []
deriving DecidableEq, Repr

def getT (s : State) (t : Tid) : Option Thread := s.threads[t]?
def setT (s : State) (t : Tid) (th : Thread) : State := { s with threads := s.threads.set t th }

def appendTo (ls : List (List Nat)) (l : Nat) (cb : Nat) : List (List Nat) :=
  ls.modify l (· ++ [cb])

/-- one micro-step of thread `t`; `none` if the thread has nothing to do -/
def step (s : State) (t : Tid) : Option State :=
  match getT s t with
  | none => none
  | some th =>
    match th.pc, th.prog with
    | .idle, [] => none
    | .idle, _ :: _ => some (setT s t { th with pc := .afterRead1 s.slot.isNone })
    | .afterRead1 true, _ =>
      -- critical section (the mutex is free between steps: a critical section is one step)
      if s.recheck && s.slot.isSome then some (setT s t { th with pc := .afterCs })
      else
        let s' := { s with slot := some s.lists.length, lists := s.lists ++ [[]] }
        some (setT s' t { th with pc := .afterCs })
    | .afterRead1 false, _ => some (setT s t { th with pc := .afterRead2 (s.slot.getD 0) })
    | .afterCs, _ => some (setT s t { th with pc := .afterRead2 (s.slot.getD 0) })
    | .afterRead2 l, cb :: rest =>
      some (setT { s with lists := appendTo s.lists l cb, log := s.log ++ [cb] } t
        { th with pc := .idle, prog := rest, done := th.done ++ [cb] })
    | .afterRead2 _, [] => none

def exec (s : State) : List Tid → State
  | [] => s
  | t :: r => match step s t with
    | some s' => exec s' r
    | none => exec s r

def init (progs : List (List Nat)) (recheck : Bool := true) : State :=
  { threads := progs.map (fun p => { prog := p }), recheck := recheck }

/-- the list the slot currently points to -/
def current (s : State) : List Nat :=
  match s.slot with
  | some l => s.lists.getD l []
  | none => []

/-- every callback whose append has returned -/
def allDone (s : State) : List Nat := s.threads.flatMap (·.done)

/-- before the list exists: nobody is past the first read with a non-null answer, nothing was
    appended; afterwards: exactly one list object was ever created, the slot points to it, it holds
    exactly the completed appends in completion order, and whoever has read the slot read that list -/
def Inv (s : State) : Prop :=
  s.recheck = true ∧
  ((s.slot = none ∧ s.lists = [] ∧ s.log = [] ∧ ∀ th ∈ s.threads, th.pc = .idle ∨ th.pc = .afterRead1 true) ∨
   (s.slot = some 0 ∧ s.lists = [s.log] ∧ ∀ th ∈ s.threads, ∀ l, th.pc = .afterRead2 l → l = 0))

theorem inv_init (progs : List (List Nat)) : Inv (init progs) := by
  refine ⟨rfl, Or.inl ⟨rfl, rfl, rfl, ?_⟩⟩
  intro th hth
  simp only [init, List.mem_map] at hth
  obtain ⟨p, _, rfl⟩ := hth
  exact Or.inl rfl

theorem forall_setT {s : State} {t : Tid} {th : Thread} {Q : Thread → Prop} (h : ∀ x ∈ s.threads, Q x)
    (hth : Q th) : ∀ x ∈ (setT s t th).threads, Q x :=
  fun x hx => (List.mem_or_eq_of_mem_set hx).elim (h x) (fun e => e ▸ hth)

theorem inv_step {s s' : State} {t : Tid} (h : Inv s) (hs : step s t = some s') : Inv s' := by
  obtain ⟨hr, h⟩ := h
  revert hs
  -- one goal per arm of `step` that returns `some`, with the thread of `t`, its pc and the arm's conditions; each arm
  -- first before the list exists (`hpc _ hth`: `t` is idle or has seen the empty slot), then after
  fun_cases step s t <;> rintro ⟨⟩ <;> have hth := List.mem_of_getElem? ‹getT s t = some _› <;>
    rcases h with ⟨hsl, hls, hlog, hpc⟩ | ⟨hsl, hls, hpc⟩
  -- `idle`: the first read; before the list exists it sees the empty slot
  · exact ⟨hr, .inl ⟨hsl, hls, hlog, forall_setT hpc (.inr (by rw [hsl]; rfl))⟩⟩
  · exact ⟨hr, .inr ⟨hsl, hls, forall_setT hpc nofun⟩⟩
  -- `afterRead1 true`, the re-check finds the list
  · simp [hsl] at ‹(_ && _) = true›
  · exact ⟨hr, .inr ⟨hsl, hls, forall_setT hpc nofun⟩⟩
  -- `afterRead1 true`, the critical section creates the list: nobody has read a non-null slot yet
  · refine ⟨hr, .inr ⟨by simp +zetaDelta [setT, hls], by simp +zetaDelta [setT, hls, hlog],
      forall_setT (fun x hx l hl => ?_) nofun⟩⟩
    rcases hpc x hx with h1 | h1 <;> cases h1.symm.trans hl
  · simp [hr, hsl] at ‹¬_›
  -- `afterRead1 false`, `afterCs`: the read for the `return`; the list exists, and the slot holds list 0
  · rcases hpc _ hth with h1 | h1 <;> cases h1.symm.trans ‹_ = PC.afterRead1 false›
  · exact ⟨hr, .inr ⟨hsl, hls, forall_setT hpc fun l hl => (PC.afterRead2.inj hl).symm.trans (by rw [hsl]; rfl)⟩⟩
  · rcases hpc _ hth with h1 | h1 <;> cases h1.symm.trans ‹_ = PC.afterCs›
  · exact ⟨hr, .inr ⟨hsl, hls, forall_setT hpc fun l hl => (PC.afterRead2.inj hl).symm.trans (by rw [hsl]; rfl)⟩⟩
  -- `afterRead2 l`: the append goes to list 0, the one the slot holds
  · rcases hpc _ hth with h1 | h1 <;> cases h1.symm.trans ‹_ = PC.afterRead2 _›
  · cases hpc _ hth _ ‹_›
    exact ⟨hr, .inr ⟨hsl, by simp [setT, appendTo, hls], forall_setT hpc nofun⟩⟩

theorem inv_exec {s : State} (h : Inv s) : ∀ (sched : List Tid), Inv (exec s sched)
  | [] => h
  | t :: r => by
    unfold exec
    cases hs : step s t with
    | none => exact inv_exec h r
    | some s' => exact inv_exec (inv_step h hs) r

/-- a thread is never blocked: it can take a step whenever it has a call left or is inside one -/
theorem progress (s : State) (t : Tid) (th : Thread) (hg : getT s t = some th)
    (h : th.prog ≠ []) : (step s t).isSome = true := by
  -- the three arms that return `none`: no such thread, or a thread with nothing left to append
  fun_cases step s t
  case case1 hn => cases hg.symm.trans hn
  case case2 | case9 =>
    cases hg.symm.trans ‹getT s t = some _›
    exact absurd ‹_ = []› h
  all_goals rfl

/-- the schedule of `C03_heter_slot_counterexample` (Properties/C03slot.lean), with the re-check -/
example :
    let s := exec (init [[10], [20]]) [0, 1, 1, 1, 1, 0, 0, 0]
    s.log = [20, 10] ∧ current s = [20, 10] ∧ s.lists.length = 1 := by
  decide

end Evp.HSlot
