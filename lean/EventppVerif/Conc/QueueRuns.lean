/-
  The control state of a thread of the concurrent queue model: in every reachable state the calls a thread
  has left are a suffix of its program, and a thread inside a call stands at a pc of the first of them —
  with the `mode` of that call, with a non-empty `kept` list only in a `processIf`, at the put-back pcs only
  in a `processIf` / `processUntil` (`Runs`, `ReachF.runs`).  What a family of programs excludes (no
  `processIf`, a single consumer, …) is then read off the pc; no further analysis of `step` is needed.
-/
import EventppVerif.Conc.QueueInv

namespace Evp.Conc

/-- the `mode` in which the processing pcs run the call -/
def modeOf : Call → Option Nat
  | .process => some 0
  | .processOne => some 1
  | .processIf k => some (if k then 3 else 2)
  | .processUntil k => some (if k then 5 else 4)
  | _ => none

/-- `pc` is a program counter of call `c` -/
def fits (c : Call) : PC → Prop
  | .idle => True
  | .enqSplice | .enqReadEmpty | .enqReadEc | .enqReadNc | .enqNotify => c = .enqueue
  | .procPre m | .procInc m | .procTake m => modeOf c = some m
  | .procLoop m _ kept _ => modeOf c = some m ∧ (kept ≠ [] → m = 2 ∨ m = 3)
  | .procPutBack _ _ | .procPbReadNc _ | .procPbNotify _ => ∃ m, modeOf c = some m ∧ 2 ≤ m
  | .procDec _ => ∃ m, modeOf c = some m
  | .takePre | .takeLocked => c = .takeEvent
  | .peekPre | .peekLocked => c = .peekEvent
  | .clearPre | .clearLocked => c = .clearEvents
  | .emptyRead1 _ | .emptyRead2 _ => c = .emptyQueue
  | .waitLock timed | .waitRead1 timed _ | .waitRead2 timed _ | .waitRead3 timed _ _ | .waitPark timed
  | .parked timed | .woken timed _ => c = if timed then .waitFor else .wait
  | .dqnInc => c = .dqnBegin
  | .dqnDec | .dqnReadNc | .dqnReadEmpty | .dqnReadEc | .dqnNotify => c = .dqnEnd

/-- a thread with calls `prog` left, at `pc`, in a run of program `p` -/
def Runs (p prog : List Call) (pc : PC) : Prop :=
  prog <:+ p ∧ (pc = .idle ∨ ∃ c r, prog = c :: r ∧ fits c pc)

section
variable {p prog : List Call} {pc pc' : PC}

theorem Runs.finish (h : Runs p prog pc) : Runs p prog.tail .idle :=
  ⟨(List.tail_suffix prog).trans h.1, Or.inl rfl⟩

theorem Runs.start {c : Call} {r : List Call} (h : Runs p prog .idle)
    (hp : prog = c :: r) (hf : fits c pc') : Runs p prog pc' :=
  ⟨h.1, Or.inr ⟨c, r, hp, hf⟩⟩

theorem Runs.goto (h : Runs p prog pc) (hpc : pc ≠ .idle)
    (hf : ∀ c, fits c pc → fits c pc') : Runs p prog pc' := by
  obtain ⟨h1, h2 | ⟨c, r, hp, hc⟩⟩ := h
  · exact absurd h2 hpc
  · exact ⟨h1, Or.inr ⟨c, r, hp, hf c hc⟩⟩

theorem Runs.pc_cases {P : PC → Prop} (h : Runs p prog pc) (h0 : P .idle)
    (hc : ∀ c ∈ p, fits c pc → P pc) : P pc := by
  obtain ⟨h1, h2 | ⟨c, r, hp, hf⟩⟩ := h
  · rw [h2]; exact h0
  · exact hc c (h1.subset (hp ▸ List.mem_cons_self ..)) hf

end

theorem stopPred_mode {m e : Nat} (h : stopPred m e = true) : 2 ≤ m := by
  unfold stopPred at h
  by_cases h4 : m = 4 <;> by_cases h5 : m = 5 <;> simp_all

theorem keepPred_mode {m e : Nat} (h : keepPred m e = true) : m = 2 ∨ m = 3 := by
  unfold keepPred at h
  by_cases h2 : m = 2 <;> by_cases h3 : m = 3 <;> simp_all

theorem runs_step {p : List Call} {s : State} {t ch : Nat} {s' : State} (h : step s t ch = some s') (th : Thread)
    (hg : s.threads[t]? = some th) (hr : Runs p th.prog th.pc) :
    ∃ th', s'.threads[t]? = some th' ∧ Runs p th'.prog th'.pc := by
  obtain ⟨th2, pc, hg2, hpc, hst⟩ := Step.of_step h
  cases hg.symm.trans hg2
  rw [hpc] at hr
  cases hst
  case enqNotify | dqnNotify => exact ⟨_, set_self (threads_notifyOne_of hg (by simp [hpc]) ch) _, hr.finish⟩
  case procPbNotify =>
    exact ⟨_, set_self (threads_notifyOne_of hg (by simp [hpc]) ch) _, hr.goto (by simp) fun _ ⟨m, h, _⟩ => ⟨m, h⟩⟩
  all_goals refine ⟨_, set_self hg _, ?_⟩
  case idleEnqueue | idleTake | idlePeek | idleClear | idleEmpty | idleWait | idleWaitFor | idleDqnBegin
      | idleDqnEnd | idleProcess | idleProcessOne | idleProcessIf | idleProcessUntil => exact hr.start ‹_› (by rfl)
  case idleDqnEndNone | enqReadEcT | enqReadNcF | procPreT | procDec | takePreT | takeLockedNil | takeLocked
      | peekPreT | peekLocked | clearPreT | clearLocked | emptyRead1F | emptyRead2 | waitRead2Timeout | waitRead3Go
      | waitRead3Timeout | dqnInc | dqnReadNcF | dqnReadEcT => exact hr.finish
  case procTakeOne | procTake => exact hr.goto (by simp) fun _ h => ⟨h, fun h => absurd rfl h⟩
  case procTakeOneNil | procTakeNil => exact hr.goto (by simp) fun _ h => ⟨_, h⟩
  case procLoopDone => exact hr.goto (by simp) fun _ h => ⟨_, h.1⟩
  case procLoopKept hk => exact hr.goto (by simp) fun _ h => ⟨_, h.1, by have := h.2 hk; omega⟩
  case procLoopStop hk => exact hr.goto (by simp) fun _ h => ⟨_, h.1, stopPred_mode hk⟩
  case procLoopKeep hk => exact hr.goto (by simp) fun _ h => ⟨h.1, fun _ => keepPred_mode hk⟩
  case procPbReadNcF => exact hr.goto (by simp) fun _ ⟨m, h, _⟩ => ⟨m, h⟩
  -- everywhere else the next pc has the same condition
  all_goals exact hr.goto (by simp) fun _ h => h

def RunsInv (progs : List (List Call)) (s : State) : Prop :=
  ∀ (u : Nat) thu, s.threads[u]? = some thu → ∃ p, progs[u]? = some p ∧ Runs p thu.prog thu.pc

theorem ReachF.runs {progs : List (List Call)} {flag : Bool} {s : State} (h : ReachF progs flag s) :
    RunsInv progs s := by
  refine h.induction ?_ fun s t ch s' hinv hs => ?_
  · intro u thu hu
    obtain ⟨p, hp, rfl⟩ := init_thread hu
    exact ⟨p, hp, List.suffix_refl _, Or.inl rfl⟩
  · obtain ⟨th, hg⟩ := step_getT hs
    obtain ⟨p, hp, hr⟩ := hinv t th hg
    refine step_lift (Q := fun u thu => ∃ p, progs[u]? = some p ∧ Runs p thu.prog thu.pc) hs ?_
      ((runs_step hs th hg hr).imp fun _ h => ⟨h.1, p, hp, h.2⟩) fun u thu _ => hinv u thu
    rintro u thu timed hpc ⟨p, hp, hr⟩
    rw [hpc] at hr
    exact ⟨p, hp, hr.goto (by simp) fun _ h => h⟩

end Evp.Conc
