/-
  Programs with a SINGLE CONSUMER thread `c` that may call `processUntil` (and `process`, `processOne`, `takeEvent`,
  `clearEvents`, but not `processIf`), next to any number of threads that enqueue / peek / call `emptyQueue` / wait /
  use DisableQueueNotify.  `processUntil` puts the events it did not dispatch back IN FRONT of the queue, so the
  no-put-back theory of Conc/QueueInvB.lean does not apply.  With one consumer the order guarantee of C06 still
  holds (`ScOrder`): every consumed event was consumed by `c`, and consumed ids ++ `c`'s local list ++ queue is
  strictly increasing — the events are consumed in enqueue order, and the put-back restores exactly that.
  With two consumers the statement is false: `C06_processUntil_two_consumers_out_of_order`.
-/
import EventppVerif.Conc.QueueInvA
import EventppVerif.Conc.QueueRuns
namespace Evp.Conc

/-- calls that can remove events from `queueList` -/
def isRemover : Call → Bool
  | .process => true
  | .processOne => true
  | .processIf _ => true
  | .processUntil _ => true
  | .takeEvent => true
  | .clearEvents => true
  | _ => false

def isIf : Call → Bool
  | .processIf _ => true
  | _ => false

/-- thread `c` is the only thread that removes events, and nobody calls `processIf` -/
def SingleConsumer (progs : List (List Call)) (c : Tid) : Prop :=
  ∀ (u : Nat) p, progs[u]? = some p → ∀ call ∈ p, (u ≠ c → isRemover call = false) ∧ isIf call = false

instance (progs : List (List Call)) (c : Tid) : Decidable (SingleConsumer progs c) :=
  decidable_of_iff (∀ u, u < progs.length → ∀ p, progs[u]? = some p →
      ∀ call ∈ p, (u ≠ c → isRemover call = false) ∧ isIf call = false)
    ⟨fun h u p hp => h u (List.getElem?_eq_some_iff.mp hp).1 p hp, fun h u _ p hp => h u p hp⟩

/-- not a `processIf` mode -/
def modeOK (m : Nat) : Prop := m ≠ 2 ∧ m ≠ 3

def scPcOK : PC → Prop
  | .procPre m => modeOK m
  | .procInc m => modeOK m
  | .procTake m => modeOK m
  | .procLoop m _ kept _ => modeOK m ∧ kept = []
  | _ => True

theorem scPcOK_procPre (m : Nat) : scPcOK (.procPre m) = modeOK m := rfl
theorem scPcOK_procInc (m : Nat) : scPcOK (.procInc m) = modeOK m := rfl
theorem scPcOK_procTake (m : Nat) : scPcOK (.procTake m) = modeOK m := rfl
theorem scPcOK_procLoop (m : Nat) (todo kept : List Nat) (any : Bool) :
    scPcOK (.procLoop m todo kept any) = (modeOK m ∧ kept = []) := rfl

/-- holds in EVERY family of programs: `kept` is used by `processIf` only -/
def keptOK : PC → Prop
  | .procLoop m _ kept _ => modeOK m → kept = []
  | _ => True

theorem keptOK_procLoop (m : Nat) (todo kept : List Nat) (any : Bool) :
    keptOK (.procLoop m todo kept any) = (modeOK m → kept = []) := rfl

theorem keptOK_of_fits {c : Call} {pc : PC} (hf : fits c pc) : keptOK pc := by
  cases pc
  case procLoop =>
    exact fun hm => Classical.byContradiction fun hk => by have := hf.2 hk; have := hm.1; have := hm.2; omega
  all_goals exact trivial

variable {progs : List (List Call)} {flag : Bool} {s : State}

theorem ReachF.kept (h : ReachF progs flag s)
    (u : Nat) (thu : Thread) (hu : s.threads[u]? = some thu) : keptOK thu.pc := by
  obtain ⟨p, _, hr⟩ := h.runs u thu hu
  exact hr.pc_cases trivial fun _ _ hf => keptOK_of_fits hf

theorem modeOK_of_modeOf {c : Call} {m : Nat} (hc : isIf c = false) (h : modeOf c = some m) : modeOK m := by
  cases c
  case processIf => cases hc
  case processUntil k => cases h; cases k <;> exact ⟨by decide, by decide⟩
  case process | processOne => cases h; exact ⟨by decide, by decide⟩
  all_goals cases h

theorem isRemover_of_modeOf {c : Call} {m : Nat} (h : modeOf c = some m) : isRemover c = true := by
  cases c
  case process | processOne | processIf | processUntil => rfl
  all_goals cases h

theorem scPcOK_of_fits {c : Call} {pc : PC} (hc : isIf c = false) (hf : fits c pc) : scPcOK pc := by
  cases pc
  case procPre | procInc | procTake => exact modeOK_of_modeOf hc hf
  case procLoop => exact ⟨modeOK_of_modeOf hc hf.1, keptOK_of_fits hf (modeOK_of_modeOf hc hf.1)⟩
  all_goals exact trivial

theorem isRemover_of_fits {c : Call} {pc : PC} (hf : fits c pc) (hr : remPc pc = true) : isRemover c = true := by
  cases pc
  case procPre | procInc | procTake => exact isRemover_of_modeOf hf
  case procLoop => exact isRemover_of_modeOf hf.1
  case procPutBack | procPbReadNc | procPbNotify => exact isRemover_of_modeOf hf.choose_spec.1
  case procDec => exact isRemover_of_modeOf hf.choose_spec
  case takePre | takeLocked | clearPre | clearLocked => rw [show c = _ from hf]; rfl
  all_goals cases hr

theorem ReachF.sc {c t : Tid} {th : Thread} (hsc : SingleConsumer progs c) (h : ReachF progs flag s)
    (hg : s.threads[t]? = some th) : scPcOK th.pc ∧ (t ≠ c → remPc th.pc = false) := by
  obtain ⟨p, hp, hr⟩ := h.runs t th hg
  have hp := hsc t p hp
  refine hr.pc_cases (P := fun pc => scPcOK pc ∧ (t ≠ c → remPc pc = false)) ⟨trivial, fun _ => rfl⟩ fun call hc hf =>
    ⟨scPcOK_of_fits (hp call hc).2 hf, fun htc => ?_⟩
  cases hrem : remPc th.pc
  · rfl
  · exact (isRemover_of_fits hf hrem).symm.trans ((hp call hc).1 htc)

/-- everything is consumed by `c`; consumed ids, `c`'s local list and the queue are increasing in
    this order -/
def ScOrder (c : Tid) (s : State) : Prop := (∀ x ∈ s.consumed, x.2.2 = c) ∧ Ord s c

theorem ReachF.scOrder {c : Tid} (hsc : SingleConsumer progs c) (h : ReachF progs flag s) : ScOrder c s := by
  refine ⟨?_, h.ord_of fun s t th hr hg => ⟨fun _ m todo kept any hpc => ?_, fun htc kept any hpc => ?_⟩⟩
  · refine h.induction' (P := fun s => ∀ x ∈ s.consumed, x.2.2 = c) (fun _ hx => nomatch hx) fun s t ch s' hr hT hs => ?_
    obtain ⟨th, th', hg, -, hm, -⟩ := step_shared hs
    by_cases htc : t = c
    · obtain ⟨l, hw, hc⟩ := hm.consumed_eq
      intro x hx
      rw [hc, List.mem_append, List.mem_map] at hx
      rcases hx with hx | ⟨e, _, rfl⟩
      · exact hT x hx
      · exact htc
    · rw [hm.consumed_of_nonrem ((hr.sc hsc hg).2 htc)]; exact hT
  · have := (hr.sc hsc hg).1
    rw [hpc] at this
    exact this.2
  · have := (hr.sc hsc hg).2 htc
    rw [hpc] at this
    cases this

theorem consumedByL_all {l : List (Nat × How × Tid)} {c : Tid} (h : ∀ x ∈ l, x.2.2 = c) :
    consumedByL l c = l.map (·.1) := by
  unfold consumedByL
  rw [List.filter_eq_self.mpr fun x hx => by simp [h x hx]]

end Evp.Conc
