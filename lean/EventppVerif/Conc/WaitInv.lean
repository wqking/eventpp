/-
  The C07 invariant `J` (Conc/WaitDefs.lean) is inductive: it holds initially for well-formed
  programs and every micro-step of `Conc/Queue.lean` preserves it (`J_step`, by cases on `Step`).
-/
import EventppVerif.Conc.QueueInv
import EventppVerif.Conc.WaitDefs

namespace Evp.Conc

theorem waitsFollowed_tail {p : List Call} (h : waitsFollowed p = true) : waitsFollowed p.tail = true := by
  cases p with
  | nil => exact h
  | cons c r => cases c <;> simp_all [waitsFollowed]

theorem after_wait {p : List Call} (h : waitsFollowed p = true) (hw : headIsWait p = true) :
    headIsProcess p.tail = true := by
  cases p with
  | nil => cases hw
  | cons c r => cases c <;> simp_all [waitsFollowed, headIsWait]

theorem thOKW_iff {th : Thread} :
    thOKW th = true ↔ waitsFollowed th.prog = true ∧ (isWaitPc th.pc = true → headIsWait th.prog = true) := by
  cases h : isWaitPc th.pc <;> simp [thOKW, h]

theorem thOKW_finish {th th' : Thread} (h : thOKW th = true) (hpc : th'.pc = .idle)
    (hprog : th'.prog = th.prog.tail) : thOKW th' = true :=
  thOKW_iff.2 ⟨hprog ▸ waitsFollowed_tail (thOKW_iff.1 h).1, by rw [hpc]; nofun⟩

theorem thOKW_goto {th th' : Thread} (h : thOKW th = true) (hprog : th'.prog = th.prog)
    (hw : isWaitPc th'.pc = true → headIsWait th.prog = true) : thOKW th' = true :=
  thOKW_iff.2 (hprog ▸ ⟨(thOKW_iff.1 h).1, hw⟩)

theorem thOKW_wait {th : Thread} (h : thOKW th = true) (hw : isWaitPc th.pc = true) :
    headIsWait th.prog = true :=
  (thOKW_iff.1 h).2 hw

theorem thOKW_stay {th : Thread} (h : thOKW th = true) (hw : isWaitPc th.pc = true) (pc' : PC) :
    thOKW { th with pc := pc' } = true :=
  thOKW_goto h rfl fun _ => thOKW_wait h hw

theorem locOK_of_not_holds {q : List Nat} {nc : Nat} {qm : Option Tid} {u : Tid} {thu : Thread}
    (h : holdsQm thu.pc = false) : locOK q nc qm u thu := by
  refine ⟨?_, ?_, ?_⟩
  · intro h'; rw [h] at h'; cases h'
  · rintro ⟨a, b, hp⟩; rw [hp] at h; cases h
  · rintro ⟨a, hp⟩; rw [hp] at h; cases h

theorem locOK_intro {q : List Nat} {nc : Nat} {qm : Option Tid} {t : Tid} {th : Thread}
    (h1 : qm = some t) (h2 : ∀ a b, th.pc = .waitRead2 a b → q = [])
    (h3 : ∀ a, th.pc = .waitPark a → q = [] ∨ nc ≠ 0) : locOK q nc qm t th :=
  ⟨fun _ => h1, fun ⟨a, b, h⟩ => h2 a b h, fun ⟨a, h⟩ => h3 a h⟩

theorem not_wait {th : Thread} (h : isWaitPc th.pc = false) : holdsQm th.pc = false ∧ isParked th = false := by
  obtain ⟨_, pc, _, _⟩ := th
  cases pc <;> cases h <;> exact ⟨rfl, rfl⟩

theorem J_init {progs : List (List Call)} (hwf : WF progs) : J (init progs true) := by
  refine ⟨⟨rfl, fun t th hg => ?_, fun t th hg => ?_⟩, fun _ ⟨t, th, hg, hpk⟩ => ?_⟩ <;>
    obtain ⟨p, hp, rfl⟩ := init_thread hg
  · exact thOKW_iff.2 ⟨(hwf p (List.mem_of_getElem? hp)).1, nofun⟩
  · exact locOK_of_not_holds rfl
  · cases hpk

theorem J0_setT {s s1 : State} {t : Tid} {th th' : Thread} (hJ : J0 s) (hg : getT s t = some th)
    (hthr : s1.threads = s.threads) (hlk : s1.dqnLocked = s.dqnLocked)
    (hth : thOKW th' = true)
    (hloc : locOK s1.queue s1.nc s1.qm t th')
    (hoth : (s1.queue = s.queue ∧ s1.qm = s.qm ∧ (s.nc ≠ 0 → s1.nc ≠ 0)) ∨ s.qm = none ∨ s.qm = some t) :
    J0 (setT s1 t th') := by
  refine ⟨hlk.trans hJ.locked, fun u thu hu => ?_, fun u thu hu => ?_⟩ <;>
    rw [getT_setT_of hg hthr] at hu <;> split at hu
  · cases hu; exact hth
  · exact hJ.th u thu hu
  · subst_vars; cases hu; exact hloc
  · rename_i hut
    show locOK s1.queue s1.nc s1.qm u thu
    have hl := hJ.loc u thu hu
    rcases hoth with ⟨hq, hm, hn⟩ | hm
    · rw [hq, hm]
      exact ⟨hl.1, hl.2.1, fun hp => (hl.2.2 hp).imp_right hn⟩
    · -- nobody but `t` holds the mutex: no other thread has a claim on the shared variables
      apply locOK_of_not_holds
      cases hh : holdsQm thu.pc with
      | false => rfl
      | true =>
        have := hl.1 hh
        rcases hm with hm | hm
        · rw [hm] at this; cases this
        · rw [hm] at this; cases this; exact absurd rfl hut

/-- Thread `t` is replaced by `th'` and the shared variables change from `s` to `s1`.  `hoth`: the other threads'
    `locOK` survives because nothing they depend on changed, or because nobody else holds the mutex.  `hkey`: `th'`
    is an obligation holder; or the condition is false in the new state; or the condition did not become true,
    `t` stays a holder if it was one, and `t` did not park. -/
theorem J_setT {s s1 : State} {t : Tid} {th th' : Thread} (hJ : J s) (hg : getT s t = some th)
    (hthr : s1.threads = s.threads) (hlk : s1.dqnLocked = s.dqnLocked)
    (hth : thOKW th' = true)
    (hloc : locOK s1.queue s1.nc s1.qm t th')
    (hoth : (s1.queue = s.queue ∧ s1.qm = s.qm ∧ (s.nc ≠ 0 → s1.nc ≠ 0)) ∨ s.qm = none ∨ s.qm = some t)
    (hkey : holder th' = true ∨ ¬ cond s1 ∨
      ((cond s1 → cond s) ∧ (holder th = true → holder th' = true) ∧
       (isParked th' = true → isParked th = true))) :
    J (setT s1 t th') := by
  refine ⟨J0_setT hJ.base hg hthr hlk hth hloc hoth, ?_⟩
  intro hc hp
  have hc1 : cond s1 := hc
  rcases hkey with hh | hn | ⟨hcs, hhh, hpp⟩
  · exact ⟨t, th', by rw [getT_setT_of hg hthr, if_pos rfl], hh⟩
  · exact absurd hc1 hn
  · obtain ⟨u, thu, hu, hup⟩ := hp
    have hps : ∃ u thu, getT s u = some thu ∧ isParked thu = true := by
      rw [getT_setT_of hg hthr] at hu
      split at hu
      · cases hu; exact ⟨t, th, hg, hpp hup⟩
      · exact ⟨u, thu, hu, hup⟩
    obtain ⟨v, thv, hv, hvh⟩ := hJ.key (hcs hc1) hps
    by_cases hvt : v = t
    · subst hvt
      rw [hg] at hv; cases hv
      exact ⟨v, th', by rw [getT_setT_of hg hthr, if_pos rfl], hhh hvh⟩
    · exact ⟨v, thv, by rw [getT_setT_of hg hthr, if_neg hvt]; exact hv, hvh⟩

/-- `queue`, `nc` and `qm` stay as they are and `t` does not park: `J` survives if `t` gives an obligation up only
    when the condition is false at that moment -/
theorem J_local {s : State} {t : Tid} {th th' : Thread} (hJ : J s) (hg : getT s t = some th)
    (hth : thOKW th' = true) (hloc : locOK s.queue s.nc s.qm t th') (hp : isParked th' = false)
    (hk : holder th = true → holder th' = false → ¬ cond s) : J (setT s t th') := by
  refine J_setT hJ hg rfl rfl hth hloc (.inl ⟨rfl, rfl, id⟩) ?_
  cases h' : holder th'
  · cases h : holder th
    · exact .inr (.inr ⟨id, nofun, by rw [hp]; nofun⟩)
    · exact .inr (.inl (hk h h'))
  · exact .inl rfl

theorem J_goto {s : State} {t : Tid} {th : Thread} {pc' : PC} (hJ : J s) (hg : getT s t = some th)
    (hw : isWaitPc pc' = false)
    (hk : holder th = true → holder { th with pc := pc' } = false → ¬ cond s) : J (goto s t th pc') :=
  have h := not_wait (th := { th with pc := pc' }) hw
  J_local hJ hg (thOKW_goto (hJ.base.th t th hg) rfl (by rw [hw]; nofun)) (locOK_of_not_holds h.1) h.2 hk

theorem J_finish {s : State} {t : Tid} {th : Thread} {r : Ret} (hJ : J s) (hg : getT s t = some th)
    (hk : holder th = true → headIsProcess th.prog.tail = false → ¬ cond s) : J (finish s t th r) :=
  J_local hJ hg (thOKW_finish (hJ.base.th t th hg) rfl rfl) (locOK_of_not_holds rfl) rfl hk

theorem J_ghost {s : State} (hJ : J s) (ec nextEv : Nat) (consumed : List (Nat × How × Tid))
    (enqueued : List (Nat × Tid)) :
    J { s with ec := ec, nextEv := nextEv, consumed := consumed, enqueued := enqueued } :=
  ⟨⟨hJ.base.locked, hJ.base.th, hJ.base.loc⟩, hJ.key⟩

/-- `notify_one`, then `t` moves on outside `wait`: the thread woken is a holder, and if nobody was woken nobody
    is parked -/
theorem J_notify {s : State} {t : Tid} {th th' : Thread} (hJ : J s) (hg : getT s t = some th)
    (hnp : isParked th = false) (ch : Nat)
    (hth : thOKW th' = true) (hpc : holdsQm th'.pc = false) (hnp' : isParked th' = false) :
    J (setT (notifyOne s ch) t th') := by
  rcases notifyOne_cases s ch with ⟨hnone, heq⟩ | ⟨w, thw, timed, hw, hwpc, heq⟩ <;> rw [heq]
  · refine ⟨J0_setT hJ.base hg rfl rfl hth (locOK_of_not_holds hpc) (.inl ⟨rfl, rfl, id⟩), ?_⟩
    intro _ ⟨u, thu, hu, hup⟩
    rw [getT_setT_of hg rfl] at hu
    split at hu
    · cases hu
      rw [hnp'] at hup; cases hup
    · rw [hnone u thu hu] at hup; cases hup
  · have hwt : w ≠ t := by
      rintro rfl
      rw [hg] at hw; cases hw
      rw [isParked, hwpc] at hnp; cases hnp
    have hthw := hJ.base.th w thw hw
    have hJ1 : J0 (setT s w { thw with pc := .woken timed false }) :=
      J0_setT hJ.base hw rfl rfl (thOKW_stay hthw (by rw [hwpc]; rfl) _)
        (locOK_of_not_holds rfl) (.inl ⟨rfl, rfl, id⟩)
    have hg1 : getT (setT s w { thw with pc := .woken timed false }) t = some th := by
      rw [getT_setT_of hw rfl, if_neg (Ne.symm hwt)]; exact hg
    refine ⟨J0_setT hJ1 hg1 rfl rfl hth (locOK_of_not_holds hpc) (.inl ⟨rfl, rfl, id⟩), fun _ _ => ?_⟩
    exact ⟨w, { thw with pc := .woken timed false }, by
      rw [getT_setT_of hg1 rfl, if_neg hwt, getT_setT_of hw rfl, if_pos rfl], rfl⟩

variable {s s' : State} {t : Tid} {ch : Nat}

theorem J_step (hJ : J s) (h : step s t ch = some s') : J s' := by
  -- the thread record is taken apart so that `holder`, `isWaitPc`, `holdsQm` of the pc a case leaves or reaches
  -- compute: a side condition about them is `rfl`, or `nofun` when one of its hypotheses computes to `false = true`
  -- (as `hk` of `J_goto` / `J_finish` does for a thread without obligation before the step, or with one after it)
  obtain ⟨⟨prog, pc, rets, dqn⟩, _, hg, rfl, hst⟩ := Step.of_step h
  have hth := hJ.base.th t _ hg
  have hloc := hJ.base.loc t _ hg
  cases hst
  -- entering a call: the head of the program says whether `t` held an obligation while idle
  case idleEnqueue hp | idleProcess hp | idleProcessOne hp | idleProcessIf hp | idleProcessUntil hp | idleTake hp |
      idlePeek hp | idleClear hp | idleEmpty hp | idleDqnBegin hp | idleDqnEnd hp _ =>
    cases hp; exact J_goto hJ hg rfl nofun
  case idleDqnEndNone hp _ => cases hp; exact J_finish hJ hg nofun
  case idleWait hp | idleWaitFor hp =>
    cases hp; exact J_local hJ hg (thOKW_goto hth rfl fun _ => rfl) (locOK_of_not_holds rfl) rfl nofun
  -- under the mutex `t` makes the condition true, or may do so, and takes the obligation
  case enqSplice hq | procPutBack hq =>
    exact J_setT hJ hg rfl rfl (thOKW_goto hth rfl nofun) (locOK_of_not_holds rfl) (.inr (.inl hq)) (.inl rfl)
  case dqnDec hq =>
    exact J_setT hJ hg rfl rfl (thOKW_goto hth rfl nofun) (locOK_of_not_holds rfl)
      (.inr (.inl (hq hJ.base.locked))) (.inl rfl)
  -- a read that sees the condition false: an obligation of `t` ends there
  case enqReadEmptyT hq | dqnReadEmptyT hq | procTakeNil hq => exact J_goto hJ hg rfl fun _ _ hc => hc.1 hq
  case procPreT hq => exact J_finish hJ hg fun _ _ hc => hc.1 hq
  case procPbReadNcF hnc => exact J_goto hJ hg rfl fun _ _ hc => hnc hc.2
  case enqReadNcF hnc | dqnReadNcF hnc => exact J_finish hJ hg fun _ _ hc => hnc hc.2
  -- `procPre m`, `procInc m`, `procTake m` hold an obligation iff `m = 0` (`process`): it is passed on
  case procPreF => exact J_goto hJ hg rfl fun h h' => nomatch h.symm.trans h'
  case procInc => exact J_goto (J_ghost hJ _ _ _ _) hg rfl fun h h' => nomatch h.symm.trans h'
  -- only `consumed` / `ec` change
  case procLoopDispatch => exact J_goto (J_ghost hJ _ _ _ _) hg rfl nofun
  case procDec => exact J_finish (J_ghost hJ _ _ _ _) hg nofun
  -- `notify_one`
  case enqNotify | dqnNotify => exact J_notify hJ hg rfl ch (thOKW_finish hth rfl rfl) rfl rfl
  case procPbNotify => exact J_notify hJ hg rfl ch (thOKW_goto hth rfl nofun) rfl rfl
  -- events leave the queue, under the mutex: the condition does not become true
  case procTakeOne hq hqe =>
    exact J_setT hJ hg rfl rfl (thOKW_goto hth rfl nofun) (locOK_of_not_holds rfl) (.inr (.inl hq))
      (.inr (.inr ⟨fun hc => ⟨by rw [hqe]; nofun, hc.2⟩, nofun, nofun⟩))
  case takeLocked hq hqe =>
    exact J_setT hJ hg rfl rfl (thOKW_finish hth rfl rfl) (locOK_of_not_holds rfl) (.inr (.inl hq))
      (.inr (.inr ⟨fun hc => ⟨by rw [hqe]; nofun, hc.2⟩, nofun, nofun⟩))
  case procTake hq _ =>
    exact J_setT hJ hg rfl rfl (thOKW_goto hth rfl nofun) (locOK_of_not_holds rfl) (.inr (.inl hq))
      (.inr (.inl fun hc => hc.1 rfl))
  case clearLocked hq =>
    exact J_setT hJ hg rfl rfl (thOKW_finish hth rfl rfl) (locOK_of_not_holds rfl) (.inr (.inl hq))
      (.inr (.inl fun hc => hc.1 rfl))
  case dqnInc =>
    exact J_setT hJ hg rfl rfl (thOKW_finish hth rfl rfl) (locOK_of_not_holds rfl)
      (.inl ⟨rfl, rfl, fun _ => Nat.succ_ne_zero _⟩) (.inr (.inl fun hc => Nat.succ_ne_zero _ hc.2))
  -- inside `wait`: `t` takes the mutex …
  case waitLock hq | woken hq =>
    exact J_setT hJ hg rfl rfl (thOKW_stay hth rfl _) (locOK_intro rfl nofun nofun)
      (.inr (.inl hq)) (.inl rfl)
  -- … evaluates the predicate while holding it (`hloc.1 rfl : s.qm = some t`) …
  case waitRead1T hq =>
    exact J_local hJ hg (thOKW_stay hth rfl _)
      (locOK_intro (hloc.1 rfl) (fun _ _ _ => hq) nofun) rfl fun _ _ hc => hc.1 hq
  case waitRead1F | waitRead2Ec =>
    exact J_local hJ hg (thOKW_stay hth rfl _) (locOK_intro (hloc.1 rfl) nofun nofun)
      rfl nofun
  case waitRead2Park =>
    exact J_local hJ hg (thOKW_stay hth rfl _)
      (locOK_intro (hloc.1 rfl) nofun fun _ _ => .inl (hloc.2.1 ⟨_, _, rfl⟩)) rfl nofun
  case waitRead3Park hnc =>
    exact J_local hJ hg (thOKW_stay hth rfl _)
      (locOK_intro (hloc.1 rfl) nofun fun _ _ => .inr hnc) rfl fun _ _ hc => hnc hc.2
  -- … and gives it back: returning (after `wait` comes `process`, by `WF`), or parking with the condition false
  case waitRead2Timeout =>
    exact J_setT hJ hg rfl rfl (thOKW_finish hth rfl rfl) (locOK_of_not_holds rfl) (.inr (.inr (hloc.1 rfl)))
      (.inr (.inl fun hc => hc.1 (hloc.2.1 ⟨_, _, rfl⟩)))
  case waitRead3Go =>
    exact J_setT hJ hg rfl rfl (thOKW_finish hth rfl rfl) (locOK_of_not_holds rfl) (.inr (.inr (hloc.1 rfl)))
      (.inl (after_wait (thOKW_iff.1 hth).1 (thOKW_wait hth rfl)))
  case waitRead3Timeout hnc =>
    exact J_setT hJ hg rfl rfl (thOKW_finish hth rfl rfl) (locOK_of_not_holds rfl) (.inr (.inr (hloc.1 rfl)))
      (.inr (.inl fun hc => hnc hc.2))
  case waitPark =>
    exact J_setT hJ hg rfl rfl (thOKW_stay hth rfl _) (locOK_of_not_holds rfl)
      (.inr (.inr (hloc.1 rfl))) (.inr (.inl fun hc => (hloc.2.2 ⟨_, rfl⟩).elim hc.1 fun h => h hc.2))
  case parkedSpurious | parkedTimeout =>
    exact J_local hJ hg (thOKW_stay hth rfl _) (locOK_of_not_holds rfl) rfl nofun
  -- the remaining steps change nothing `J` mentions but the pc of `t`, and `t` drops no obligation
  case enqReadEcT | takePreT | takeLockedNil | peekPreT | peekLocked | clearPreT | emptyRead1F | emptyRead2 |
      dqnReadEcT =>
    exact J_finish hJ hg nofun
  all_goals exact J_goto hJ hg rfl nofun

theorem J_reach {progs : List (List Call)} (hwf : WF progs) {s : State} (hr : Reach progs s) : J s :=
  hr.reachF.induction (J_init hwf) fun _ _ _ _ hJ h => J_step hJ h

end Evp.Conc
