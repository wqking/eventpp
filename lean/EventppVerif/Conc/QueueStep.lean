/-
  The micro-step of the concurrent queue model (Conc/Queue.lean) as a relation: `Step s t ch th pc s'` has one
  constructor per way `step s t ch` can succeed (`Step.of_step`), so an invariant is preserved if `cases` on the
  relation says so.  Every successor is `setT s1 t th'`, where `s1` has the threads of `s` unless the step is a
  `notify_one`, which moves at most one other thread from `parked` to `woken`: that is all a step of `t` does to the
  other threads.
-/
import EventppVerif.Conc.Queue

namespace Evp.Conc

/-- `Step s t ch th pc s'`: thread `t`, which is `th` in `s` and stands at `pc`, can make the micro-step to `s'`.
    One constructor per way `step` returns `some`, named after the program counter it leaves. -/
inductive Step (s : State) (t : Tid) (ch : Nat) (th : Thread) : PC → State → Prop
  | idleEnqueue {r} : th.prog = .enqueue :: r → Step s t ch th .idle (goto s t th .enqSplice)
  | idleProcess {r} : th.prog = .process :: r → Step s t ch th .idle (goto s t th (.procPre 0))
  | idleProcessOne {r} : th.prog = .processOne :: r → Step s t ch th .idle (goto s t th (.procPre 1))
  | idleProcessIf {k r} : th.prog = .processIf k :: r →
      Step s t ch th .idle (goto s t th (.procPre (if k then 3 else 2)))
  | idleProcessUntil {k r} : th.prog = .processUntil k :: r →
      Step s t ch th .idle (goto s t th (.procPre (if k then 5 else 4)))
  | idleTake {r} : th.prog = .takeEvent :: r → Step s t ch th .idle (goto s t th .takePre)
  | idlePeek {r} : th.prog = .peekEvent :: r → Step s t ch th .idle (goto s t th .peekPre)
  | idleClear {r} : th.prog = .clearEvents :: r → Step s t ch th .idle (goto s t th .clearPre)
  | idleEmpty {r} : th.prog = .emptyQueue :: r → Step s t ch th .idle (goto s t th (.emptyRead1 s.nextEv))
  | idleWait {r} : th.prog = .wait :: r → Step s t ch th .idle (goto s t th (.waitLock false))
  | idleWaitFor {r} : th.prog = .waitFor :: r → Step s t ch th .idle (goto s t th (.waitLock true))
  | idleDqnBegin {r} : th.prog = .dqnBegin :: r → Step s t ch th .idle (goto s t th .dqnInc)
  | idleDqnEndNone {r} : th.prog = .dqnEnd :: r → th.dqn = 0 → Step s t ch th .idle (finish s t th .unit)
  | idleDqnEnd {r} : th.prog = .dqnEnd :: r → th.dqn ≠ 0 → Step s t ch th .idle (goto s t th .dqnDec)
  | enqSplice : s.qm = none →
      Step s t ch th .enqSplice
        (goto { s with queue := s.queue ++ [s.nextEv], nextEv := s.nextEv + 1,
                       enqueued := s.enqueued ++ [(s.nextEv, t)] } t th .enqReadEmpty)
  | enqReadEmptyT : s.queue = [] → Step s t ch th .enqReadEmpty (goto s t th .enqReadEc)
  | enqReadEmptyF : s.queue ≠ [] → Step s t ch th .enqReadEmpty (goto s t th .enqReadNc)
  | enqReadEcT : s.ec = 0 → Step s t ch th .enqReadEc (finish s t th .unit)
  | enqReadEcF : s.ec ≠ 0 → Step s t ch th .enqReadEc (goto s t th .enqReadNc)
  | enqReadNcT : s.nc = 0 → Step s t ch th .enqReadNc (goto s t th .enqNotify)
  | enqReadNcF : s.nc ≠ 0 → Step s t ch th .enqReadNc (finish s t th .unit)
  | enqNotify : Step s t ch th .enqNotify (finish (notifyOne s ch) t th .unit)
  | procPreT {m} : s.queue = [] → Step s t ch th (.procPre m) (finish s t th (.bool false))
  | procPreF {m} : s.queue ≠ [] → Step s t ch th (.procPre m) (goto s t th (.procInc m))
  | procInc {m} : Step s t ch th (.procInc m) (goto { s with ec := s.ec + 1 } t th (.procTake m))
  | procTakeOneNil : s.qm = none → s.queue = [] → Step s t ch th (.procTake 1) (goto s t th (.procDec false))
  | procTakeOne {e r} : s.qm = none → s.queue = e :: r →
      Step s t ch th (.procTake 1) (goto { s with queue := r } t th (.procLoop 1 [e] [] false))
  | procTakeNil {m} : m ≠ 1 → s.qm = none → s.queue = [] → Step s t ch th (.procTake m) (goto s t th (.procDec false))
  | procTake {m} : m ≠ 1 → s.qm = none → s.queue ≠ [] →
      Step s t ch th (.procTake m) (goto { s with queue := [] } t th (.procLoop m s.queue [] false))
  | procLoopDone {m any} :
      Step s t ch th (.procLoop m [] [] any) (goto s t th (.procDec (if m ≥ 2 then any else true)))
  | procLoopKept {m kept any} : kept ≠ [] →
      Step s t ch th (.procLoop m [] kept any) (goto s t th (.procPutBack kept any))
  | procLoopStop {m e r kept any} : stopPred m e = true →
      Step s t ch th (.procLoop m (e :: r) kept any) (goto s t th (.procPutBack (kept ++ e :: r) any))
  | procLoopKeep {m e r kept any} : stopPred m e = false → keepPred m e = true →
      Step s t ch th (.procLoop m (e :: r) kept any) (goto s t th (.procLoop m r (kept ++ [e]) any))
  | procLoopDispatch {m e r kept any} : stopPred m e = false → keepPred m e = false →
      Step s t ch th (.procLoop m (e :: r) kept any)
        (goto { s with consumed := s.consumed ++ [(e, .dispatched, t)] } t th (.procLoop m r kept true))
  | procPutBack {kept any} : s.qm = none →
      Step s t ch th (.procPutBack kept any) (goto { s with queue := kept ++ s.queue } t th (.procPbReadNc any))
  | procPbReadNcT {any} : s.nc = 0 → Step s t ch th (.procPbReadNc any) (goto s t th (.procPbNotify any))
  | procPbReadNcF {any} : s.nc ≠ 0 → Step s t ch th (.procPbReadNc any) (goto s t th (.procDec any))
  | procPbNotify {any} : Step s t ch th (.procPbNotify any) (goto (notifyOne s ch) t th (.procDec any))
  | procDec {res} : Step s t ch th (.procDec res) (finish { s with ec := s.ec - 1 } t th (.bool res))
  | takePreT : s.queue = [] → Step s t ch th .takePre (finish s t th (.bool false))
  | takePreF : s.queue ≠ [] → Step s t ch th .takePre (goto s t th .takeLocked)
  | takeLockedNil : s.qm = none → s.queue = [] → Step s t ch th .takeLocked (finish s t th (.bool false))
  | takeLocked {e r} : s.qm = none → s.queue = e :: r →
      Step s t ch th .takeLocked
        (finish { s with queue := r, consumed := s.consumed ++ [(e, .taken, t)] } t th (.bool true))
  | peekPreT : s.queue = [] → Step s t ch th .peekPre (finish s t th (.bool false))
  | peekPreF : s.queue ≠ [] → Step s t ch th .peekPre (goto s t th .peekLocked)
  | peekLocked : s.qm = none → Step s t ch th .peekLocked (finish s t th (.bool (!s.queue.isEmpty)))
  | clearPreT : s.queue = [] → Step s t ch th .clearPre (finish s t th .unit)
  | clearPreF : s.queue ≠ [] → Step s t ch th .clearPre (goto s t th .clearLocked)
  | clearLocked : s.qm = none →
      Step s t ch th .clearLocked
        (finish { s with queue := [], consumed := s.consumed ++ s.queue.map (fun e => (e, .cleared, t)) } t th .unit)
  | emptyRead1T {seen} : s.queue = [] → Step s t ch th (.emptyRead1 seen) (goto s t th (.emptyRead2 seen))
  | emptyRead1F {seen} : s.queue ≠ [] → Step s t ch th (.emptyRead1 seen) (finish s t th (.bool false))
  | emptyRead2 {seen} : Step s t ch th (.emptyRead2 seen) (finish s t th (.bool (s.ec == 0)))
  | waitLock {timed} : s.qm = none →
      Step s t ch th (.waitLock timed) (goto { s with qm := some t } t th (.waitRead1 timed false))
  | waitRead1T {timed ato} : s.queue = [] →
      Step s t ch th (.waitRead1 timed ato) (goto s t th (.waitRead2 timed ato))
  | waitRead1F {timed ato} : s.queue ≠ [] →
      Step s t ch th (.waitRead1 timed ato) (goto s t th (.waitRead3 timed ato true))
  | waitRead2Ec {timed ato} : s.ec ≠ 0 →
      Step s t ch th (.waitRead2 timed ato) (goto s t th (.waitRead3 timed ato true))
  | waitRead2Timeout {timed} : s.ec = 0 →
      Step s t ch th (.waitRead2 timed true) (finish { s with qm := none } t th (.bool false))
  | waitRead2Park {timed} : s.ec = 0 → Step s t ch th (.waitRead2 timed false) (goto s t th (.waitPark timed))
  | waitRead3Go {timed ato ne} : s.nc = 0 →
      Step s t ch th (.waitRead3 timed ato ne)
        (finish { s with qm := none } t th (if timed then .bool true else .unit))
  | waitRead3Timeout {timed ne} : s.nc ≠ 0 →
      Step s t ch th (.waitRead3 timed true ne) (finish { s with qm := none } t th (.bool false))
  | waitRead3Park {timed ne} : s.nc ≠ 0 →
      Step s t ch th (.waitRead3 timed false ne) (goto s t th (.waitPark timed))
  | waitPark {timed} : Step s t ch th (.waitPark timed) (goto { s with qm := none } t th (.parked timed))
  | parkedSpurious {timed} : ch = 0 → Step s t ch th (.parked timed) (goto s t th (.woken timed false))
  | parkedTimeout : ch = 1 → Step s t ch th (.parked true) (goto s t th (.woken true true))
  | woken {timed ato} : s.qm = none →
      Step s t ch th (.woken timed ato) (goto { s with qm := some t } t th (.waitRead1 timed ato))
  | dqnInc : Step s t ch th .dqnInc (finish { s with nc := s.nc + 1 } t { th with dqn := th.dqn + 1 } .unit)
  | dqnDec : (s.dqnLocked = true → s.qm = none) →
      Step s t ch th .dqnDec (goto { s with nc := s.nc - 1 } t { th with dqn := th.dqn - 1 } .dqnReadNc)
  | dqnReadNcT : s.nc = 0 → Step s t ch th .dqnReadNc (goto s t th .dqnReadEmpty)
  | dqnReadNcF : s.nc ≠ 0 → Step s t ch th .dqnReadNc (finish s t th .unit)
  | dqnReadEmptyT : s.queue = [] → Step s t ch th .dqnReadEmpty (goto s t th .dqnReadEc)
  | dqnReadEmptyF : s.queue ≠ [] → Step s t ch th .dqnReadEmpty (goto s t th .dqnNotify)
  | dqnReadEcT : s.ec = 0 → Step s t ch th .dqnReadEc (finish s t th .unit)
  | dqnReadEcF : s.ec ≠ 0 → Step s t ch th .dqnReadEc (goto s t th .dqnNotify)
  | dqnNotify : Step s t ch th .dqnNotify (finish (notifyOne s ch) t th .unit)

-- the branch conditions of `step`, in the form the constructors of `Step` state them
private theorem eq_none {o : Option Tid} (h : ¬o.isSome = true) : o = none := Option.not_isSome_iff_eq_none.mp h
private theorem eq_nil {l : List Nat} (h : l.isEmpty = true) : l = [] := List.isEmpty_iff.mp h
private theorem ne_nil {l : List Nat} (h : ¬l.isEmpty = true) : l ≠ [] := mt List.isEmpty_iff.mpr h
private theorem eq_of_not_bne {a b : Nat} (h : ¬(a != b) = true) : a = b := Decidable.of_not_not (mt bne_iff_ne.mpr h)

open Step in
/-- The arms of `step` that return `some`, in the order of `step`, are the constructors of `Step`, in their order:
    each `exact` closes one arm and names its constructor. -/
theorem Step.of_step {s : State} {t ch : Nat} {s' : State} (h : step s t ch = some s') :
    ∃ th pc, s.threads[t]? = some th ∧ th.pc = pc ∧ Step s t ch th pc s' := by
  revert h
  fun_cases Conc.step _ _ _ <;> rintro ⟨⟩ <;> refine ⟨_, _, ‹_›, ‹_›, ?_⟩
  exact idleEnqueue ‹_›
  exact idleProcess ‹_›
  exact idleProcessOne ‹_›
  exact idleProcessIf ‹_›
  exact idleProcessUntil ‹_›
  exact idleTake ‹_›
  exact idlePeek ‹_›
  exact idleClear ‹_›
  exact idleEmpty ‹_›
  exact idleWait ‹_›
  exact idleWaitFor ‹_›
  exact idleDqnBegin ‹_›
  exact idleDqnEndNone ‹_› ‹_›
  exact idleDqnEnd ‹_› ‹_›
  exact enqSplice (eq_none ‹_›)
  exact enqReadEmptyT (eq_nil ‹_›)
  exact enqReadEmptyF (ne_nil ‹_›)
  exact enqReadEcT ‹_›
  exact enqReadEcF ‹_›
  exact enqReadNcT ‹_›
  exact enqReadNcF ‹_›
  exact enqNotify
  exact procPreT (eq_nil ‹_›)
  exact procPreF (ne_nil ‹_›)
  exact procInc
  exact procTakeOneNil (eq_none ‹_›) ‹_›
  exact procTakeOne (eq_none ‹_›) ‹_›
  exact procTakeNil ‹_› (eq_none ‹_›) (eq_nil ‹_›)
  exact procTake ‹_› (eq_none ‹_›) (ne_nil ‹_›)
  cases eq_nil ‹_›; exact procLoopDone
  exact procLoopKept (ne_nil ‹_›)
  exact procLoopStop ‹_›
  exact procLoopKeep (eq_false_of_ne_true ‹_›) ‹_›
  exact procLoopDispatch (eq_false_of_ne_true ‹_›) (eq_false_of_ne_true ‹_›)
  exact procPutBack (eq_none ‹_›)
  exact procPbReadNcT ‹_›
  exact procPbReadNcF ‹_›
  exact procPbNotify
  exact procDec
  exact takePreT (eq_nil ‹_›)
  exact takePreF (ne_nil ‹_›)
  exact takeLockedNil (eq_none ‹_›) ‹_›
  exact takeLocked (eq_none ‹_›) ‹_›
  exact peekPreT (eq_nil ‹_›)
  exact peekPreF (ne_nil ‹_›)
  exact peekLocked (eq_none ‹_›)
  exact clearPreT (eq_nil ‹_›)
  exact clearPreF (ne_nil ‹_›)
  exact clearLocked (eq_none ‹_›)
  exact emptyRead1T (eq_nil ‹_›)
  exact emptyRead1F (ne_nil ‹_›)
  exact emptyRead2
  exact waitLock (eq_none ‹_›)
  exact waitRead1T (eq_nil ‹_›)
  exact waitRead1F (ne_nil ‹_›)
  exact waitRead2Ec (bne_iff_ne.mp ‹_›)
  exact waitRead2Timeout (eq_of_not_bne ‹_›)
  cases eq_false_of_ne_true ‹¬_ = true›; exact waitRead2Park (eq_of_not_bne ‹_›)
  exact waitRead3Go (eq_of_beq ‹_›)
  exact waitRead3Timeout (mt beq_iff_eq.mpr ‹_›)
  cases eq_false_of_ne_true ‹¬_ = true›; exact waitRead3Park (mt beq_iff_eq.mpr ‹_›)
  exact waitPark
  exact parkedSpurious ‹_›
  cases (‹_ ∧ _›).1; exact parkedTimeout (‹_ ∧ _›).2
  exact woken (eq_none ‹_›)
  exact dqnInc
  exact dqnDec fun hl => eq_none (not_and.mp ‹_› hl)
  exact dqnReadNcT ‹_›
  exact dqnReadNcF ‹_›
  exact dqnReadEmptyT (eq_nil ‹_›)
  exact dqnReadEmptyF (ne_nil ‹_›)
  exact dqnReadEcT ‹_›
  exact dqnReadEcF ‹_›
  exact dqnNotify

theorem goto_eq (s : State) (t : Tid) (th : Thread) (pc : PC) :
    goto s t th pc = setT s t { th with pc := pc } := rfl

theorem finish_eq (s : State) (t : Tid) (th : Thread) (r : Ret) :
    finish s t th r = setT s t { th with pc := .idle, prog := th.prog.tail, rets := th.rets ++ [r] } := rfl

@[simp] theorem setT_threads (s : State) (t : Tid) (th : Thread) :
    (setT s t th).threads = s.threads.set t th := rfl
@[simp] theorem setT_queue (s : State) (t : Tid) (th : Thread) : (setT s t th).queue = s.queue := rfl
@[simp] theorem setT_ec (s : State) (t : Tid) (th : Thread) : (setT s t th).ec = s.ec := rfl
@[simp] theorem setT_nc (s : State) (t : Tid) (th : Thread) : (setT s t th).nc = s.nc := rfl
@[simp] theorem setT_qm (s : State) (t : Tid) (th : Thread) : (setT s t th).qm = s.qm := rfl
@[simp] theorem setT_nextEv (s : State) (t : Tid) (th : Thread) : (setT s t th).nextEv = s.nextEv := rfl
@[simp] theorem setT_consumed (s : State) (t : Tid) (th : Thread) :
    (setT s t th).consumed = s.consumed := rfl
@[simp] theorem setT_enqueued (s : State) (t : Tid) (th : Thread) :
    (setT s t th).enqueued = s.enqueued := rfl
@[simp] theorem setT_dqnLocked (s : State) (t : Tid) (th : Thread) :
    (setT s t th).dqnLocked = s.dqnLocked := rfl

theorem getT_setT (s : State) (t u : Tid) (th : Thread) :
    getT (setT s t th) u = if t = u then (if t < s.threads.length then some th else none) else getT s u := by
  simp only [getT, setT_threads, List.getElem?_set]

theorem getT_lt {s : State} {t : Tid} {th : Thread} (h : getT s t = some th) : t < s.threads.length :=
  (List.getElem?_eq_some_iff.mp h).1

theorem set_self {α : Type} {l : List α} {t : Nat} {x : α} (h : l[t]? = some x) (y : α) :
    (l.set t y)[t]? = some y := by
  simp [(List.getElem?_eq_some_iff.mp h).1]

theorem getT_setT_of {s s1 : State} {t : Tid} {th : Thread} (h : getT s t = some th)
    (hthr : s1.threads = s.threads) (u : Tid) (th' : Thread) :
    getT (setT s1 t th') u = if u = t then some th' else getT s u := by
  simp only [getT, setT_threads, hthr]
  split
  · subst_vars; exact set_self h _
  · exact List.getElem?_set_ne (Ne.symm ‹_›)

theorem eq_of_getT_setT_self {s s1 : State} {t : Tid} {th x th' : Thread} (hg : getT s t = some th)
    (h : getT (setT s1 t x) t = some th') (hthr : s1.threads = s.threads) : x = th' := by
  rw [getT_setT_of hg hthr, if_pos rfl] at h
  exact Option.some.inj h

theorem mem_parkedTids {s : State} {t : Tid} :
    t ∈ parkedTids s ↔ ∃ th, getT s t = some th ∧ isParked th = true := by
  unfold parkedTids
  rw [List.mem_filter, List.mem_range]
  constructor
  · rintro ⟨_, h⟩
    cases hg : s.threads[t]? with
    | none => simp [hg] at h
    | some th => exact ⟨th, hg, by simpa only [hg, isParked] using h⟩
  · rintro ⟨th, hg, hp⟩
    exact ⟨getT_lt hg, by simpa only [show s.threads[t]? = some th from hg, isParked] using hp⟩

theorem notifyOne_cases (s : State) (ch : Nat) :
    ((∀ t th, getT s t = some th → isParked th = false) ∧ notifyOne s ch = s) ∨
    (∃ w thw timed, getT s w = some thw ∧ thw.pc = .parked timed ∧
       notifyOne s ch = setT s w { thw with pc := .woken timed false }) := by
  by_cases hps : parkedTids s = []
  · refine .inl ⟨fun t th hg => ?_, by simp [notifyOne, hps]⟩
    cases hp : isParked th with
    | false => rfl
    | true => exact absurd (mem_parkedTids.mpr ⟨th, hg, hp⟩) (by rw [hps]; nofun)
  · have hlen : 0 < (parkedTids s).length := List.length_pos_iff.2 hps
    have hget := List.getElem?_eq_getElem
      (show ch % max (parkedTids s).length 1 < (parkedTids s).length by
        rw [Nat.max_eq_left hlen]; exact Nat.mod_lt _ hlen)
    obtain ⟨thw, hg, hp⟩ := mem_parkedTids.mp (List.mem_of_getElem? hget)
    cases hpc : thw.pc with
    | parked timed => exact .inr ⟨_, thw, timed, hg, hpc, by simp only [notifyOne, hget, hg, hpc]⟩
    | _ => simp [isParked, hpc] at hp

theorem notifyOne_eq (s : State) (ch : Nat) : notifyOne s ch = { s with threads := (notifyOne s ch).threads } := by
  rcases notifyOne_cases s ch with ⟨_, h⟩ | ⟨w, thw, timed, _, _, h⟩ <;> rw [h]; rfl

@[simp] theorem notifyOne_queue (s : State) (ch : Nat) : (notifyOne s ch).queue = s.queue := by
  rw [notifyOne_eq]
@[simp] theorem notifyOne_ec (s : State) (ch : Nat) : (notifyOne s ch).ec = s.ec := by
  rw [notifyOne_eq]
@[simp] theorem notifyOne_nc (s : State) (ch : Nat) : (notifyOne s ch).nc = s.nc := by
  rw [notifyOne_eq]
@[simp] theorem notifyOne_qm (s : State) (ch : Nat) : (notifyOne s ch).qm = s.qm := by
  rw [notifyOne_eq]
@[simp] theorem notifyOne_nextEv (s : State) (ch : Nat) : (notifyOne s ch).nextEv = s.nextEv := by
  rw [notifyOne_eq]
@[simp] theorem notifyOne_consumed (s : State) (ch : Nat) : (notifyOne s ch).consumed = s.consumed := by
  rw [notifyOne_eq]
@[simp] theorem notifyOne_enqueued (s : State) (ch : Nat) : (notifyOne s ch).enqueued = s.enqueued := by
  rw [notifyOne_eq]
@[simp] theorem notifyOne_dqnLocked (s : State) (ch : Nat) : (notifyOne s ch).dqnLocked = s.dqnLocked := by
  rw [notifyOne_eq]

theorem notifyOne_thread (s : State) (ch : Nat) (u : Tid) :
    (notifyOne s ch).threads[u]? = s.threads[u]? ∨
    ∃ thu timed, s.threads[u]? = some thu ∧ thu.pc = .parked timed ∧
      (notifyOne s ch).threads[u]? = some { thu with pc := .woken timed false } := by
  rcases notifyOne_cases s ch with ⟨_, h⟩ | ⟨w, thw, timed, hw, hpc, h⟩ <;> rw [h]
  · exact .inl rfl
  · by_cases hu : u = w
    · subst hu; exact .inr ⟨thw, timed, hw, hpc, set_self hw _⟩
    · exact .inl (List.getElem?_set_ne (Ne.symm hu))

theorem getT_notifyOne (s : State) (ch : Nat) (u : Tid) (thu' : Thread)
    (h : getT (notifyOne s ch) u = some thu') :
    getT s u = some thu' ∨
    ∃ thu timed, getT s u = some thu ∧ thu.pc = .parked timed ∧ thu' = { thu with pc := .woken timed false } := by
  rcases notifyOne_thread s ch u with h1 | ⟨thu, timed, h1, h2, h3⟩
  · exact .inl (h1.symm.trans h)
  · exact .inr ⟨thu, timed, h1, h2, Option.some.inj (h.symm.trans h3)⟩

theorem threads_notifyOne_of {s : State} {t : Tid} {th : Thread} (h : s.threads[t]? = some th)
    (hp : ∀ timed, th.pc ≠ .parked timed) (ch : Nat) : (notifyOne s ch).threads[t]? = some th := by
  rcases notifyOne_thread s ch t with h' | ⟨thu, timed, h1, h2, _⟩
  · rw [h', h]
  · rw [h] at h1; cases h1; exact absurd h2 (hp timed)

theorem finished_iff {th : Thread} : finished th = true ↔ th.prog = [] ∧ th.pc = .idle := by
  simp only [finished, Bool.and_eq_true, List.isEmpty_iff, beq_iff_eq]

theorem init_thread {progs : List (List Call)} {flag : Bool} {u : Nat} {thu : Thread}
    (h : (init progs flag).threads[u]? = some thu) : ∃ p, progs[u]? = some p ∧ thu = { prog := p } := by
  simp only [init, List.getElem?_map, Option.map_eq_some_iff] at h
  obtain ⟨p, hp, rfl⟩ := h
  exact ⟨p, hp, rfl⟩

theorem init_pc {progs : List (List Call)} {flag : Bool} {u : Nat} {thu : Thread}
    (h : (init progs flag).threads[u]? = some thu) : thu.pc = .idle := by
  obtain ⟨p, _, rfl⟩ := init_thread h; rfl

theorem exec_invariant {P : State → Prop}
    (hstep : ∀ s t ch s', P s → step s t ch = some s' → P s') :
    ∀ (sched : List (Tid × Nat)) (s : State), P s → P (exec s sched)
  | [], _, h => h
  | (t, ch) :: r, s, h => by
    simp only [exec]
    cases hs : step s t ch with
    | none => exact exec_invariant hstep r s h
    | some s' => exact exec_invariant hstep r s' (hstep s t ch s' h hs)

theorem exec_append (s : State) (a b : List (Tid × Nat)) : exec s (a ++ b) = exec (exec s a) b := by
  induction a generalizing s with
  | nil => rfl
  | cons x r ih =>
    obtain ⟨t, ch⟩ := x
    simp only [List.cons_append, exec]
    cases step s t ch <;> simp [ih]

theorem step_getT {s : State} {t ch : Nat} {s' : State} (h : step s t ch = some s') :
    ∃ th, s.threads[t]? = some th :=
  let ⟨th, _, hg, _⟩ := Step.of_step h
  ⟨th, hg⟩

theorem Step.shape {s : State} {t ch : Nat} {th : Thread} {pc : PC} {s' : State} (h : Step s t ch th pc s') :
    ∃ s1 th', s' = setT s1 t th' ∧ (s1.threads = s.threads ∨ s1 = notifyOne s ch) := by
  cases h
  case enqNotify | dqnNotify | procPbNotify => exact ⟨_, _, rfl, .inr rfl⟩
  all_goals exact ⟨_, _, rfl, .inl rfl⟩

theorem step_others {s : State} {t ch : Nat} {s' : State} (h : step s t ch = some s') (u : Tid) (hu : u ≠ t) :
    s'.threads[u]? = s.threads[u]? ∨
    ∃ thu timed, s.threads[u]? = some thu ∧ thu.pc = .parked timed ∧
      s'.threads[u]? = some { thu with pc := .woken timed false } := by
  obtain ⟨_, _, _, _, hst⟩ := Step.of_step h
  obtain ⟨s1, th', rfl, h1 | rfl⟩ := hst.shape <;> rw [setT_threads, List.getElem?_set_ne (Ne.symm hu)]
  · exact .inl (by rw [h1])
  · exact notifyOne_thread s ch u

/-- `Q` may mention the state after the step (instantiate it with `s'` in it). -/
theorem step_lift {Q : Nat → Thread → Prop} {s : State} {t ch : Nat} {s' : State} (h : step s t ch = some s')
    (hwake : ∀ u thu timed, thu.pc = .parked timed → Q u thu → Q u { thu with pc := .woken timed false })
    (hself : ∃ th', s'.threads[t]? = some th' ∧ Q t th')
    (hother : ∀ (u : Nat) thu, u ≠ t → s.threads[u]? = some thu → Q u thu) :
    ∀ (u : Nat) thu, s'.threads[u]? = some thu → Q u thu := by
  intro u thu hu
  by_cases hut : u = t
  · subst hut
    obtain ⟨th', h1, h2⟩ := hself
    rw [h1] at hu; cases hu; exact h2
  · rcases step_others h u hut with h1 | ⟨thu0, timed, h1, h2, h3⟩
    · rw [h1] at hu; exact hother u thu hut hu
    · rw [h3] at hu; cases hu
      exact hwake u thu0 timed h2 (hother u thu0 hut h1)

section
variable {α : Type} {g : PC → α} {s s' : State} {t ch : Nat} {th' : Thread}

/-- `g` cannot tell a waiter woken by `notify_one` from a parked one, so `notifyOne` is invisible to `map g` and a step
    changes `map g` at the stepping thread only (`step_map`) -/
def WakeBlind (g : PC → α) : Prop := ∀ timed, g (.woken timed false) = g (.parked timed)

theorem map_notifyOne (hg : WakeBlind g) (s : State) (ch : Nat) :
    (notifyOne s ch).threads.map (fun th => g th.pc) = s.threads.map fun th => g th.pc := by
  rcases notifyOne_cases s ch with ⟨_, h⟩ | ⟨w, thw, timed, hw, hpc, h⟩ <;> rw [h]
  obtain ⟨hlt, rfl⟩ := List.getElem?_eq_some_iff.mp hw
  rw [setT_threads, List.map_set, show g _ = g _ from hg timed, ← hpc, ← List.map_set, List.set_getElem_self]

theorem step_map (hg : WakeBlind g) (h : step s t ch = some s') (ht' : s'.threads[t]? = some th') :
    s'.threads.map (fun th => g th.pc) = (s.threads.map fun th => g th.pc).set t (g th'.pc) := by
  obtain ⟨_, _, _, _, hst⟩ := Step.of_step h
  obtain ⟨s1, th1, rfl, h1⟩ := hst.shape
  rw [setT_threads] at ht' ⊢
  obtain ⟨_, rfl⟩ : _ ∧ th1 = th' := by simpa [List.getElem?_set] using ht'
  rw [List.map_set]
  rcases h1 with h1 | rfl
  · rw [h1]
  · rw [map_notifyOne hg]

end

theorem exec_others_thread {t : Tid} {th : Thread} (hp : ∀ timed, th.pc ≠ .parked timed) :
    ∀ (sched : List (Tid × Nat)) (s : State), (∀ x ∈ sched, x.1 ≠ t) → s.threads[t]? = some th →
      (exec s sched).threads[t]? = some th
  | [], _, _, h => h
  | (u, ch) :: r, s, hne, h => by
    have ih := fun s => exec_others_thread hp r s fun x hx => hne x (List.mem_cons_of_mem _ hx)
    simp only [exec]
    split
    · rename_i s' hs
      refine ih s' ?_
      rcases step_others hs t (fun e => hne (u, ch) (List.mem_cons_self ..) e.symm) with h1 | ⟨thu, timed, h1, h2, _⟩
      · rw [h1]; exact h
      · rw [h] at h1; cases h1; exact absurd h2 (hp timed)
    · exact ih s h

end Evp.Conc
