/-
  `queueNotifyCounter` equals the number of live `DisableQueueNotify` objects, in every reachable
  state and for both versions of the destructor (a thread at `dqnDec` still counts its object).
-/
import EventppVerif.Conc.QueueInv

namespace Evp.Conc

def sumDqn : List Thread → Nat
  | [] => 0
  | th :: r => th.dqn + sumDqn r

theorem sumDqn_eq_sum (l : List Thread) : sumDqn l = (l.map (·.dqn)).sum := by
  induction l with
  | nil => rfl
  | cons a r ih => rw [sumDqn, ih]; rfl

theorem sumDqn_set {th th' : Thread} {l : List Thread} {t : Nat} (h : l[t]? = some th) :
    sumDqn (l.set t th') + th.dqn = sumDqn l + th'.dqn := by
  rw [sumDqn_eq_sum, sumDqn_eq_sum, List.map_set]
  exact sum_map_set h _ th'

theorem le_sumDqn {l : List Thread} {t : Nat} {th : Thread} (h : l[t]? = some th) : th.dqn ≤ sumDqn l := by
  have : _ + th.dqn = _ + 0 := sumDqn_set (th' := { th with dqn := 0 }) h
  omega

theorem sumDqn_zero : ∀ {l : List Thread}, (∀ (t : Nat) (th : Thread), l[t]? = some th → th.dqn = 0) → sumDqn l = 0
  | [], _ => rfl
  | a :: r, h => by
    have ha : a.dqn = 0 := h 0 a rfl
    have hr := sumDqn_zero (l := r) fun t th ht => h (t + 1) th ht
    simp only [sumDqn, ha, hr]

/-- the second clause makes the truncated subtractions of `dqnDec` (`nc - 1`, `dqn - 1`) exact -/
def DInv (s : State) : Prop :=
  s.nc = sumDqn s.threads ∧ ∀ t th, getT s t = some th → th.pc = .dqnDec → 1 ≤ th.dqn

theorem DInv_setT {s s1 : State} {t : Tid} {th th' : Thread} (hD : DInv s) (hg : getT s t = some th)
    (hthr : s1.threads = s.threads)
    (hnc : s1.nc + th.dqn = s.nc + th'.dqn) (hpc : th'.pc = .dqnDec → 1 ≤ th'.dqn) :
    DInv (setT s1 t th') := by
  refine ⟨?_, fun u thu hu hpcu => ?_⟩
  · show s1.nc = sumDqn (s1.threads.set t th')
    have := sumDqn_set (th' := th') hg
    have h0 := hD.1
    rw [hthr]
    omega
  · rw [getT_setT_of hg hthr] at hu
    split at hu
    · cases hu; exact hpc hpcu
    · exact hD.2 u thu hu hpcu

theorem DInv_notifyOne {s : State} (hD : DInv s) (ch : Nat) : DInv (notifyOne s ch) := by
  rcases notifyOne_cases s ch with ⟨_, heq⟩ | ⟨w, thw, timed, hw, _, heq⟩ <;> rw [heq]
  · exact hD
  · exact DInv_setT hD hw rfl rfl nofun

theorem DInv_step {s s' : State} {t : Tid} {ch : Nat} (hD : DInv s) (h : step s t ch = some s') :
    DInv s' := by
  obtain ⟨⟨prog, pc, rets, dqn⟩, _, hg, rfl, hst⟩ := Step.of_step h
  cases hst
  case enqNotify | dqnNotify | procPbNotify =>
    exact DInv_setT (DInv_notifyOne hD ch) (threads_notifyOne_of hg nofun ch) rfl rfl nofun
  case dqnInc => exact DInv_setT hD hg rfl (Nat.add_right_comm ..) nofun
  case dqnDec =>
    have h1 : 1 ≤ dqn := hD.2 t _ hg rfl
    have h2 : dqn ≤ s.nc := hD.1 ▸ le_sumDqn hg
    exact DInv_setT hD hg rfl (show s.nc - 1 + dqn = s.nc + (dqn - 1) by omega) nofun
  case idleDqnEnd hd => exact DInv_setT hD hg rfl rfl fun _ => Nat.pos_of_ne_zero hd
  -- the other steps change neither `nc` nor `dqn` and do not lead to `dqnDec`
  all_goals exact DInv_setT hD hg rfl rfl nofun

theorem DInv_init (progs : List (List Call)) (b : Bool) : DInv (init progs b) := by
  refine ⟨?_, fun t th hg hpc => ?_⟩
  · exact (sumDqn_zero fun _ _ h => by obtain ⟨_, _, rfl⟩ := init_thread h; rfl).symm
  · cases (init_pc hg).symm.trans hpc

theorem DInv_reach {progs : List (List Call)} {b : Bool} {s : State} (hr : ReachF progs b s) : DInv s :=
  hr.induction (DInv_init progs b) fun _ _ _ _ hD h => DInv_step hD h

end Evp.Conc
