/-
  Model of `eventpp::SpinLock` (eventpolicies.h): a test-and-set lock.
      lock():   while(locked.test_and_set(acquire)) {}
      unlock(): locked.clear(release)
  Each `test_and_set` is one atomic micro-step (it returns the old value and leaves the flag set);
  `clear` is one micro-step.  Threads repeat: lock, critical section, unlock.  That the source has
  exactly this shape is re-read on every run (Generated/SpinFrag.lean).
-/
namespace Evp.Spin

inductive PC | idle | spinning | critical
deriving DecidableEq, Repr

structure State where
  flag : Bool := false
  pcs : List PC := []
deriving DecidableEq, Repr

/-- one micro-step of thread `t` -/
def step (s : State) (t : Nat) : State :=
  match s.pcs[t]? with
  | none => s
  | some .idle => { s with pcs := s.pcs.set t .spinning }               -- calls lock()
  | some .spinning =>
    -- test_and_set: old value false -> the lock is ours; true -> try again
    if s.flag then s else { flag := true, pcs := s.pcs.set t .critical }
  | some .critical => { flag := false, pcs := s.pcs.set t .idle }        -- unlock(): clear

def exec (s : State) : List Nat → State
  | [] => s
  | t :: r => exec (step s t) r

def init (n : Nat) : State := { pcs := List.replicate n .idle }

def isC (p : PC) : Nat := if p = .critical then 1 else 0

def cnt : List PC → Nat
  | [] => 0
  | p :: r => isC p + cnt r

def inCritical (s : State) : Nat := cnt s.pcs

/-- the flag is set exactly while somebody is in the critical section, and at most one thread is -/
def Inv (s : State) : Prop := inCritical s = (if s.flag then 1 else 0)

theorem cnt_set : ∀ (l : List PC) (t : Nat) (old new : PC), l[t]? = some old →
    cnt (l.set t new) + isC old = cnt l + isC new
  | [], t, _, _, h => by simp at h
  | a :: r, 0, old, new, h => by
    simp at h; subst h
    simp only [List.set_cons_zero, cnt]; omega
  | a :: r, k + 1, old, new, h => by
    simp at h
    have := cnt_set r k old new h
    simp only [List.set_cons_succ, cnt]; omega

theorem inv_step (s : State) (t : Nat) (h : Inv s) : Inv (step s t) := by
  unfold Inv inCritical at *
  -- where `step` changes the pc of `t`, `cnt_set` says how the count changes; `isC` of the two pcs computes
  fun_cases step s t
  · exact h
  · exact (cnt_set s.pcs t _ .spinning ‹_›).trans h
  · exact h
  -- the flag was clear, so nobody was inside: `t` is the one
  · have := cnt_set s.pcs t _ .critical ‹_›
    simp [isC] at this ⊢
    rw [if_neg ‹_›] at h
    omega
  -- `t` was inside, so the flag was set and `t` was the only one
  · have := cnt_set s.pcs t _ .idle ‹_›
    simp [isC] at this ⊢
    split at h <;> omega

theorem cnt_replicate_idle : ∀ n, cnt (List.replicate n PC.idle) = 0
  | 0 => rfl
  | n + 1 => by simp [List.replicate_succ, cnt, isC, cnt_replicate_idle n]

theorem inv_init (n : Nat) : Inv (init n) := by
  unfold Inv inCritical init
  simp [cnt_replicate_idle]

theorem inv_exec (s : State) (h : Inv s) : ∀ sched, Inv (exec s sched)
  | [] => h
  | t :: r => inv_exec (step s t) (inv_step s t h) r

/-- a free lock can be taken: a spinning thread that is scheduled while the flag is clear enters -/
theorem progress (s : State) (t : Nat) (hp : s.pcs[t]? = some .spinning) (hf : s.flag = false) :
    (step s t).pcs[t]? = some .critical := by
  simp only [step, hp, hf]
  exact List.getElem?_set_self (List.getElem?_eq_some_iff.mp hp).1

end Evp.Spin
