import EventppVerif.Util.Removers
import EventppVerif.CL.ListLemmas
import EventppVerif.CL.SpecLaws
/-
  Helper lemmas for property C15 (ScopedRemover).  The invariant `Resp` is kept because every
  operation changes the world in one of three ways: records are handed from remover to remover or
  dropped while the dropped handles are detached; a fresh handle enters a list; a remover records
  a handle of its target.  The lists themselves change only where `MayDetach` says.
-/
namespace Evp.Rem
open SList

/-- lookup in the association list of live removers (`getRem w r = lk w.rems r`) -/
def lk (R : List (Nat × Remover)) (r : Nat) : Option Remover := (R.find? (fun p => p.1 == r)).map (·.2)
def ins (R : List (Nat × Remover)) (r : Nat) (v : Remover) : List (Nat × Remover) :=
  (r, v) :: R.filter (fun p => p.1 != r)
def del (R : List (Nat × Remover)) (r : Nat) : List (Nat × Remover) := R.filter (fun p => p.1 != r)
def Names (R : List (Nat × Remover)) : Prop := (R.map (·.1)).Nodup

theorem getRem_eq (w : RW) (r : Nat) : getRem w r = lk w.rems r := rfl
theorem setRem_rems (w : RW) (r : Nat) (v : Remover) : (setRem w r v).rems = ins w.rems r v := rfl
theorem delRem_rems (w : RW) (r : Nat) : (delRem w r).rems = del w.rems r := rfl
theorem lk_nil (r : Nat) : lk [] r = none := rfl

theorem lk_del (R : List (Nat × Remover)) (r r' : Nat) :
    lk (del R r) r' = if r' = r then none else lk R r' := find?_key_filter R r r'

theorem lk_ins (R : List (Nat × Remover)) (r r' : Nat) (v : Remover) :
    lk (ins R r v) r' = if r' = r then some v else lk R r' := by
  have := lk_del R r r'
  unfold lk ins del at *
  rw [List.find?_cons]
  by_cases h : r' = r
  · simp [h]
  · have h' : (r == r') = false := by simpa using fun e => h e.symm
    simp only [h', this, h, if_false]

theorem Names_del {R : List (Nat × Remover)} (h : Names R) (r : Nat) : Names (del R r) :=
  h.sublist (List.filter_sublist.map _)

theorem Names_ins {R : List (Nat × Remover)} (h : Names R) (r : Nat) (v : Remover) : Names (ins R r v) :=
  List.nodup_cons.mpr ⟨by simp, Names_del h r⟩

theorem mem_of_lk {R : List (Nat × Remover)} {r : Nat} {v : Remover} (h : lk R r = some v) : (r, v) ∈ R := by
  obtain ⟨p, hf, rfl⟩ := Option.map_eq_some_iff.mp h
  have := List.find?_some hf
  rw [← beq_iff_eq.mp this]
  exact List.mem_of_find?_eq_some hf

theorem lk_of_mem {R : List (Nat × Remover)} (hn : Names R) {r : Nat} {v : Remover} (h : (r, v) ∈ R) :
    lk R r = some v := by
  induction R with
  | nil => cases h
  | cons p R ih =>
    have hn' := List.nodup_cons.mp hn
    unfold lk
    rw [List.find?_cons]
    rcases List.mem_cons.mp h with h | h
    · subst h; simp
    · have hne : (p.1 == r) = false := by
        rw [beq_eq_false_iff_ne]
        intro e
        exact hn'.1 (List.mem_map.mpr ⟨(r, v), h, e.symm⟩)
      rw [hne]
      exact ih hn'.2 h

theorem ids_resetLists (lists : Store SList) (v : Remover) (l : Nat) :
    (resetLists lists v l).ids =
      if v.target = some l then (lists l).ids.filter (fun x => !v.items.contains x) else (lists l).ids := by
  unfold resetLists
  cases ht : v.target with
  | none => rfl
  | some t =>
    rw [upd_get]
    by_cases h : l = t
    · subst h; rw [if_pos rfl, if_pos rfl, ids_foldl_remove]
    · rw [if_neg h, if_neg fun e => h (Option.some.inj e).symm]

theorem sublist_resetLists (lists : Store SList) (v : Remover) (l : Nat) :
    (resetLists lists v l).ids.Sublist (lists l).ids := by
  rw [ids_resetLists]
  split
  · exact List.filter_sublist
  · exact .refl _

theorem present_resetLists (lists : Store SList) (v : Remover) (l : Nat) (x : Hd) :
    (resetLists lists v l).present x = ((lists l).present x && !(decide (v.target = some l) && v.items.contains x)) := by
  rw [Bool.eq_iff_iff, present_iff, ids_resetLists]
  split <;> simp [*, present_iff]

theorem sublist_upd_erase (lists : Store SList) (l : Nat) (h : Hd) (l' : Nat) :
    (upd lists l ((lists l).remove h).1 l').ids.Sublist (lists l').ids := by
  rw [upd_get]
  split
  · rename_i e; rw [e, remove_fst, ids_erase]; exact List.filter_sublist
  · exact .refl _

theorem present_upd (lists : Store SList) (l l' : Nat) (L' : SList) (x : Hd) :
    (upd lists l L' l').present x = if l' = l then L'.present x else (lists l').present x := by
  rw [upd_get]; split <;> rfl

/-- The C15 invariant.  `names`: the live removers have distinct names; `lt`, `nodup`, `disj`: a handle
    present in a list has been issued, occurs once in it and in no other list; `via` is the ghost
    set of the handles added through a remover (`via_lt`: all issued); `items_via`, `items_nodup`,
    `items_excl`: a handle recorded by a live remover is in `via`, recorded once and by no other
    remover; `resp`, the point of it: a handle of `via` still present in a list `l` is recorded by
    a live remover whose target is `l`. -/
structure Resp (w : RW) : Prop where
  names : (w.rems.map (·.1)).Nodup
  lt : ∀ l h, (w.lists l).present h = true → h < w.nextId
  nodup : ∀ l, (w.lists l).ids.Nodup
  disj : ∀ l l' h, (w.lists l).present h = true → (w.lists l').present h = true → l = l'
  via_lt : ∀ h ∈ w.via, h < w.nextId
  items_via : ∀ r v, (r, v) ∈ w.rems → ∀ h ∈ v.items, h ∈ w.via
  items_nodup : ∀ r v, (r, v) ∈ w.rems → v.items.Nodup
  items_excl : ∀ r v r' v' h, (r, v) ∈ w.rems → (r', v') ∈ w.rems → h ∈ v.items → h ∈ v'.items → r = r'
  resp : ∀ h ∈ w.via, ∀ l, (w.lists l).present h = true →
    ∃ r v, (r, v) ∈ w.rems ∧ h ∈ v.items ∧ v.target = some l

theorem Resp_init : Resp {} := by
  have e : ∀ l, (({} : RW).lists l) = ([] : SList) := fun l => Store.empty_get l
  refine ⟨List.nodup_nil, ?_, ?_, ?_, ?_, ?_, ?_, ?_, ?_⟩ <;> simp [e, present]

theorem reset_detaches {w : RW} (H : Resp w) {r v} (hr : getRem w r = some v) {h} (hi : h ∈ v.items) (l : Nat) :
    (resetLists w.lists v l).present h = false := by
  rw [present_resetLists]
  cases hp : (w.lists l).present h with
  | false => rfl
  | true =>
    -- the remover responsible for `h` in `l` is `r` itself, so `l` is the target of `r`
    have hm := mem_of_lk hr
    obtain ⟨r', v', hm', hi', ht'⟩ := H.resp h (H.items_via r v hm h hi) l hp
    cases H.items_excl r v r' v' h hm hm' hi hi'
    cases (lk_of_mem H.names hm).symm.trans (lk_of_mem H.names hm')
    simp [ht', hi]

theorem remove_detaches {w : RW} (H : Resp w) {l h} (hp : (w.lists l).present h = true) (l' : Nat) :
    (upd w.lists l ((w.lists l).remove h).1 l').present h = false := by
  rw [present_upd]
  split
  · rw [present_remove, bne_self_eq_false, Bool.and_false]
  · rename_i hne
    cases hp' : (w.lists l').present h with
    | false => rfl
    | true => exact absurd (H.disj l' l h hp' hp) hne

/-- What becomes of one slot of the remover table (`none`: not alive) under an operation that adds
    no listener: it records nothing new, and each of its records is kept, with the target, or
    detached everywhere in `lists'`. -/
def Keeps (lists' : Store SList) (o' o : Option Remover) : Prop :=
  (∀ v', o' = some v' → v'.items = [] ∨ ∃ v, o = some v ∧ v'.items.Sublist v.items) ∧
  ∀ v h, o = some v → h ∈ v.items →
    (∃ v', o' = some v' ∧ h ∈ v'.items ∧ v'.target = v.target) ∨ ∀ l, (lists' l).present h = false

theorem Keeps.refl (lists' : Store SList) (o : Option Remover) : Keeps lists' o o :=
  ⟨fun v e => .inr ⟨v, e, .refl _⟩, fun v _ e hm => .inl ⟨v, e, hm, rfl⟩⟩

theorem Keeps.new (lists' : Store SList) (t : Option Nat) : Keeps lists' (some ⟨t, []⟩) none :=
  ⟨fun _ e => .inl (Option.some.inj e ▸ rfl), fun _ _ e => nomatch e⟩

theorem Keeps.clear {lists' : Store SList} {v : Remover} (t : Option Nat)
    (hd : ∀ h ∈ v.items, ∀ l, (lists' l).present h = false) : Keeps lists' (some ⟨t, []⟩) (some v) :=
  ⟨fun _ e => .inl (Option.some.inj e ▸ rfl), fun _ h e hm => .inr (hd h (Option.some.inj e ▸ hm))⟩

theorem Keeps.gone {lists' : Store SList} {v : Remover}
    (hd : ∀ h ∈ v.items, ∀ l, (lists' l).present h = false) : Keeps lists' none (some v) :=
  ⟨fun _ e => (nomatch e), fun _ h e hm => .inr (hd h (Option.some.inj e ▸ hm))⟩

/-- Every operation that adds no listener has this shape: the lists shrink, and the removers are
    renamed by an involution `ρ` (the identity, or a transposition for move and swap) such that
    every slot `Keeps` what its preimage had. -/
theorem Resp.transfer {w w' : RW} (H : Resp w) (ρ : Nat → Nat) (hρ : ∀ r, ρ (ρ r) = r)
    (hn : Names w'.rems) (hid : w'.nextId = w.nextId) (hvia : w'.via = w.via)
    (hl : ∀ l, (w'.lists l).ids.Sublist (w.lists l).ids)
    (hk : ∀ r, Keeps w'.lists (lk w'.rems r) (lk w.rems (ρ r))) : Resp w' := by
  have hp : ∀ {l h}, (w'.lists l).present h = true → (w.lists l).present h = true :=
    fun hq => present_iff.mpr ((hl _).subset (present_iff.mp hq))
  have hrec : ∀ {r v' h}, (r, v') ∈ w'.rems → h ∈ v'.items → ∃ v, (ρ r, v) ∈ w.rems ∧ h ∈ v.items := by
    intro r v' h hm hi'
    rcases (hk r).1 v' (lk_of_mem hn hm) with e | ⟨v, e, hs⟩
    · rw [e] at hi'; cases hi'
    · exact ⟨v, mem_of_lk e, hs.subset hi'⟩
  refine ⟨hn, ?_, fun l => (H.nodup l).sublist (hl l), ?_, ?_, ?_, ?_, ?_, ?_⟩
  · intro l h hq; rw [hid]; exact H.lt l h (hp hq)
  · intro l l' h hq hq'; exact H.disj l l' h (hp hq) (hp hq')
  · rw [hid, hvia]; exact H.via_lt
  · intro r v' hm h hi'
    obtain ⟨v, m, h0⟩ := hrec hm hi'
    rw [hvia]; exact H.items_via _ v m h h0
  · intro r v' hm
    rcases (hk r).1 v' (lk_of_mem hn hm) with e | ⟨v, e, hs⟩
    · rw [e]; exact List.nodup_nil
    · exact (H.items_nodup _ v (mem_of_lk e)).sublist hs
  · intro r v r' v' h hm hm' hi1 hi2
    obtain ⟨u, m, h0⟩ := hrec hm hi1
    obtain ⟨u', m', h0'⟩ := hrec hm' hi2
    rw [← hρ r, H.items_excl _ u _ u' h m m' h0 h0', hρ]
  · intro h hv l hq
    rw [hvia] at hv
    obtain ⟨r, v, hm, h0, t0⟩ := H.resp h hv l (hp hq)
    rcases (hk (ρ r)).2 v h (by rw [hρ]; exact lk_of_mem H.names hm) h0 with ⟨v', e', h', t⟩ | hdet
    · exact ⟨ρ r, v', mem_of_lk e', h', t.trans t0⟩
    · rw [hdet l] at hq; cases hq

theorem Resp.set {w : RW} (H : Resp w) {r : Nat} {o : Option Remover} {v' : Remover} {lists' : Store SList}
    (hr : lk w.rems r = o) (hl : ∀ l, (lists' l).ids.Sublist (w.lists l).ids) (hk : Keeps lists' (some v') o) :
    Resp { setRem w r v' with lists := lists' } := by
  refine H.transfer id (fun _ => rfl) (Names_ins H.names _ _) rfl rfl hl fun r' => ?_
  rw [setRem_rems, lk_ins]
  split
  · rename_i e; rw [id, e, hr]; exact hk
  · exact .refl _ _

def swp (a b r : Nat) : Nat := if r = b then a else if r = a then b else r

theorem swp_swp (a b r : Nat) : swp a b (swp a b r) = r := by
  unfold swp
  by_cases hb : r = b
  · rw [if_pos hb]
    by_cases hab : a = b
    · rw [if_pos hab, hab, hb]
    · rw [if_neg hab, if_pos rfl, hb]
  · rw [if_neg hb]
    by_cases ha : r = a
    · rw [if_pos ha, if_pos rfl, ha]
    · rw [if_neg ha, if_neg hb, if_neg ha]

/-- Move and swap: `b` takes over the record `x` of `a`, and `a` keeps all (swap) or none (move) of
    what `b` recorded; in the two moves `a` is the source and `b` the destination. -/
theorem Resp.exchange {w : RW} (H : Resp w) {a b : Nat} {x y' : Remover} {o : Option Remover} {lists' : Store SList}
    (ha : lk w.rems a = some x) (hb : lk w.rems b = o)
    (hl : ∀ l, (lists' l).ids.Sublist (w.lists l).ids) (hk : Keeps lists' (some y') o) :
    Resp (setRem (setRem { w with lists := lists' } a y') b x) := by
  refine H.transfer (swp a b) (swp_swp a b) (Names_ins (Names_ins H.names _ _) _ _) rfl rfl hl fun r' => ?_
  simp only [setRem_rems, lk_ins, swp]
  -- `r' = b` (now `x`, what `swp a b b = a` had), `r' = a` (now `y'`), any other remover
  split
  · exact ha ▸ .refl _ _
  · split
    · exact hb ▸ hk
    · exact .refl _ _

/-- A handle never issued before enters list `l`: a direct `append`, and the first half of an add
    through a remover. -/
theorem Resp.fresh {w : RW} (H : Resp w) {l : Nat} {L' : SList}
    (hp : L'.ids.Perm (w.nextId :: (w.lists l).ids)) :
    Resp { w with lists := upd w.lists l L', nextId := w.nextId + 1 } := by
  have hmem : ∀ l' x, (upd w.lists l L' l').present x = true →
      (w.lists l').present x = true ∨ (l' = l ∧ x = w.nextId) := by
    intro l' x
    rw [present_upd]
    split
    · rename_i e
      rw [present_iff, hp.mem_iff, List.mem_cons, e, ← present_iff]
      exact fun h => h.symm.imp_right fun h => ⟨rfl, h⟩
    · exact .inl
  have hn : ∀ l, (w.lists l).present w.nextId ≠ true := fun l hm => Nat.lt_irrefl _ (H.lt l _ hm)
  refine ⟨H.names, ?_, ?_, ?_, fun h hv => Nat.lt_succ_of_lt (H.via_lt h hv), H.items_via, H.items_nodup,
    H.items_excl, ?_⟩
  · intro l' h hm
    rcases hmem l' h hm with hm | ⟨_, e⟩
    · exact Nat.lt_succ_of_lt (H.lt l' h hm)
    · exact e ▸ Nat.lt_succ_self _
  · intro l'
    show (upd w.lists l L' l').ids.Nodup
    rw [upd_get]
    split
    · rw [hp.nodup_iff]; exact List.nodup_cons.mpr ⟨fun hm => hn l (present_iff.mpr hm), H.nodup l⟩
    · exact H.nodup l'
  · intro l1 l2 h m1 m2
    rcases hmem l1 h m1 with m1 | ⟨e1, e⟩ <;> rcases hmem l2 h m2 with m2 | ⟨e2, e'⟩
    · exact H.disj l1 l2 h m1 m2
    · exact absurd (e' ▸ m1) (hn l1)
    · exact absurd (e ▸ m2) (hn l2)
    · rw [e1, e2]
  · intro h hv l' hm
    rcases hmem l' h hm with hm | ⟨_, e⟩
    · exact H.resp h hv l' hm
    · exact absurd (H.via_lt h hv) (e ▸ Nat.lt_irrefl _)

/-- The second half: remover `r` records a handle of its target that is not in `via` yet, hence
    recorded by nobody. -/
theorem Resp.adopt {w : RW} (H : Resp w) {r l : Nat} {v v' : Remover} {x : Hd} (hr : lk w.rems r = some v)
    (ht : v.target = some l) (hx : (w.lists l).present x = true) (hv : x ∉ w.via)
    (hi' : v'.items = v.items ++ [x]) (ht' : v'.target = v.target) :
    Resp { setRem w r v' with via := x :: w.via } := by
  have hm := mem_of_lk hr
  have hni : ∀ r0 v0, (r0, v0) ∈ w.rems → x ∉ v0.items := fun r0 v0 h0 hi => hv (H.items_via r0 v0 h0 x hi)
  have hent : ∀ r0 v0, (r0, v0) ∈ ins w.rems r v' → (r0 = r ∧ v0 = v') ∨ (r0, v0) ∈ w.rems := by
    intro r0 v0 h0
    rcases List.mem_cons.mp h0 with e | h0
    · exact .inl (Prod.mk.inj e)
    · exact .inr (List.mem_filter.mp h0).1
  have own : ∀ r0 v0 h, (r0, v0) ∈ ins w.rems r v' → h ∈ v0.items →
      (∃ u, (r0, u) ∈ w.rems ∧ h ∈ u.items) ∨ (r0 = r ∧ h = x) := by
    intro r0 v0 h h0 hi
    rcases hent r0 v0 h0 with ⟨rfl, rfl⟩ | h0
    · rw [hi'] at hi
      exact (List.mem_append.mp hi).imp (fun hi => ⟨v, hm, hi⟩) fun hi => ⟨rfl, List.mem_singleton.mp hi⟩
    · exact .inl ⟨v0, h0, hi⟩
  refine ⟨Names_ins H.names _ _, H.lt, H.nodup, H.disj, ?_, ?_, ?_, ?_, ?_⟩
  · intro h hm
    rcases List.mem_cons.mp hm with rfl | hm
    · exact H.lt l h hx
    · exact H.via_lt h hm
  · intro r0 v0 h0 h hi
    rcases own r0 v0 h h0 hi with ⟨u, hu, hiu⟩ | ⟨_, e⟩
    · exact List.mem_cons_of_mem _ (H.items_via r0 u hu h hiu)
    · exact e ▸ List.mem_cons_self
  · intro r0 v0 h0
    rcases hent r0 v0 h0 with ⟨_, rfl⟩ | h0
    · rw [hi']
      exact List.nodup_append.mpr ⟨H.items_nodup r v hm, by simp,
        fun a ha b hb e => hni r v hm (List.mem_singleton.mp hb ▸ e ▸ ha)⟩
    · exact H.items_nodup r0 v0 h0
  · intro r1 v1 r2 v2 h h1 h2 hi1 hi2
    rcases own r1 v1 h h1 hi1 with ⟨u1, m1, i1⟩ | ⟨e1, e⟩ <;> rcases own r2 v2 h h2 hi2 with ⟨u2, m2, i2⟩ | ⟨e2, e'⟩
    · exact H.items_excl r1 u1 r2 u2 h m1 m2 i1 i2
    · exact absurd (e' ▸ i1) (hni r1 u1 m1)
    · exact absurd (e ▸ i2) (hni r2 u2 m2)
    · rw [e1, e2]
  · intro h hm' l' hp
    rcases List.mem_cons.mp hm' with rfl | hm'
    · exact ⟨r, v', List.mem_cons_self, hi' ▸ List.mem_append_right _ (List.mem_singleton_self _),
        by rw [ht', H.disj l' l h hp hx]; exact ht⟩
    · obtain ⟨r0, v0, h0, i0, t0⟩ := H.resp h hm' l' hp
      by_cases e : r0 = r
      · cases e
        cases (lk_of_mem H.names h0).symm.trans hr
        exact ⟨r, v', List.mem_cons_self, hi' ▸ List.mem_append_left _ i0, ht'.trans t0⟩
      · exact ⟨r0, v0, List.mem_cons_of_mem _ (List.mem_filter.mpr ⟨h0, bne_iff_ne.mpr e⟩), i0, t0⟩

theorem Resp_addVia {w : RW} (H : Resp w) {r v l} (hr : getRem w r = some v) (ht : v.target = some l)
    {L' : SList} (hp : L'.ids.Perm (w.nextId :: (w.lists l).ids)) : Resp (addVia w r v l L').1 := by
  have hx : (upd w.lists l L' l).present w.nextId = true := by
    rw [upd_same, present_iff, hp.mem_iff]; exact List.mem_cons_self
  have := (H.fresh hp).adopt hr ht hx (fun hm => Nat.lt_irrefl _ (H.via_lt _ hm))
    (v' := { v with items := v.items ++ [w.nextId] }) rfl rfl
  -- unfolded first: the unifier would otherwise compare the two worlds through `upd`
  unfold addVia setRem at *
  exact this

/-- `rremove` in normal form: either `r` is alive with a target `l`, records `h`, `h` is present in
    `l`, and the step erases record and entry; or one of the four fails and the world stays. -/
theorem step_rremove (w : RW) (r : Nat) (h : Hd) :
    (∃ v l, getRem w r = some v ∧ v.target = some l ∧ h ∈ v.items ∧ (w.lists l).present h = true ∧
      step w (.rremove r h) = ({ setRem w r { v with items := v.items.erase h } with
        lists := upd w.lists l ((w.lists l).remove h).1 }, .bool true)) ∨
    ((¬ ∃ v l, getRem w r = some v ∧ v.target = some l ∧ h ∈ v.items ∧ (w.lists l).present h = true) ∧
      (step w (.rremove r h)).1 = w ∧ (step w (.rremove r h)).2 ≠ .bool true) := by
  simp only [step]
  split
  · rename_i v hr
    split
    · rename_i l ht
      split
      · rename_i hc
        have hc := Bool.and_eq_true_iff.mp hc
        exact .inl ⟨v, l, hr, ht, by simpa using hc.1, hc.2, rfl⟩
      · rename_i hc
        refine .inr ⟨?_, rfl, fun e => by cases e⟩
        rintro ⟨v', l', e, ht', hi, hp⟩
        cases hr.symm.trans e
        cases ht.symm.trans ht'
        exact hc (by simp [hi, hp])
    · rename_i ht
      exact .inr ⟨fun ⟨v', l', e, ht', _⟩ => (by cases hr.symm.trans e; cases ht.symm.trans ht'), rfl, fun e => by cases e⟩
  · rename_i hr
    exact .inr ⟨fun ⟨v', _, e, _⟩ => (by cases hr.symm.trans e), rfl, fun e => by cases e⟩

theorem Resp_step {w : RW} (H : Resp w) (op : ROp) : Resp (step w op).1 := by
  have hrefl : ∀ l, ((w.lists l).ids).Sublist (w.lists l).ids := fun _ => .refl _
  cases op with
  | rnew r l =>
    simp only [step]
    split
    · exact H
    · rename_i hr
      exact H.set hr hrefl (.new _ _)
  | rappend r cb =>
    simp only [step]
    split
    · rename_i v hr
      split
      · rename_i l ht
        exact Resp_addVia H hr ht (ids_append_perm _ _ _)
      · exact H
    · exact H
  | rprepend r cb =>
    simp only [step]
    split
    · rename_i v hr
      split
      · rename_i l ht
        exact Resp_addVia H hr ht (ids_prepend_perm _ _ _)
      · exact H
    · exact H
  | rinsert r cb b =>
    simp only [step]
    split
    · rename_i v hr
      split
      · rename_i l ht
        exact Resp_addVia H hr ht (ids_insert_perm _ _ _ _)
      · exact H
    · exact H
  | rremove r h =>
    rcases step_rremove w r h with ⟨v, l, hr, _, _, hp, e⟩ | ⟨_, e, _⟩ <;> rw [e]
    · refine H.set hr (sublist_upd_erase _ l h) ⟨?_, ?_⟩
      · rintro _ ⟨⟩
        exact .inr ⟨v, rfl, List.erase_sublist⟩
      · rintro _ x ⟨⟩ hi
        by_cases hx : x = h
        · cases hx; exact .inr (remove_detaches H hp)
        · exact .inl ⟨_, rfl, (List.mem_erase_of_ne hx).mpr hi, rfl⟩
    · exact H
  | rreset r =>
    simp only [step]
    split
    · rename_i v hr
      exact H.set hr (sublist_resetLists _ v) (.clear _ fun _ => reset_detaches H hr)
    · exact H
  | rtarget r l =>
    simp only [step]
    split
    · rename_i v hr
      split
      · exact H
      · exact H.set hr (sublist_resetLists _ v) (.clear _ fun _ => reset_detaches H hr)
    · exact H
  | rmovector dst src =>
    simp only [step]
    split
    · rename_i v hd hs
      exact H.exchange hs hd hrefl (.new _ _)
    · exact H
  | rmoveassign dst src =>
    simp only [step]
    split
    · rename_i d v hd hs
      split
      · exact H
      · exact H.exchange hs hd (sublist_resetLists _ d) (.clear _ fun _ => reset_detaches H hd)
    · exact H
  | rswap a b =>
    simp only [step]
    split
    · rename_i x y ha hb
      exact H.exchange ha hb hrefl (.refl _ _)
    · exact H
  | rdestroy r =>
    simp only [step]
    split
    · rename_i v hr
      refine H.transfer id (fun _ => rfl) (Names_del H.names _) rfl rfl (sublist_resetLists _ v) fun r' => ?_
      rw [delRem_rems, lk_del]
      split
      · rename_i e; rw [id, e, ← getRem_eq, hr]; exact .gone fun _ => reset_detaches H hr
      · exact .refl _ _
    · exact H
  | append l cb =>
    simp only [step]
    exact H.fresh (ids_append_perm _ _ _)
  | remove l h =>
    simp only [step]
    exact H.transfer id (fun _ => rfl) H.names rfl rfl (sublist_upd_erase _ l h) fun _ => .refl _ _

theorem Resp_run {w : RW} (H : Resp w) (ops : List ROp) : Resp (run w ops).1 := by
  induction ops generalizing w with
  | nil => exact H
  | cons op r ih => exact ih (Resp_step H op)

theorem present_eq_iff {L L' : SList} {h h' : Hd} : L.present h = L'.present h' ↔ (h ∈ L.ids ↔ h' ∈ L'.ids) := by
  rw [Bool.eq_iff_iff, present_iff, present_iff]

/-- the three ways a remover's responsibility ends without being passed on -/
inductive EndsOp (r : Nat) (l : Nat) : ROp → Prop
  | destroy : EndsOp r l (.rdestroy r)
  | reset : EndsOp r l (.rreset r)
  | retarget (l' : Nat) (h : l' ≠ l) : EndsOp r l (.rtarget r l')

/-- the operations that end the responsibility of remover `r` (target `l`) for handle `h`, or
    remove `h` directly from the list -/
def MayDetach (r l : Nat) (h : Hd) : ROp → Prop
  | .rdestroy r' => r' = r
  | .rreset r' => r' = r
  | .rtarget r' l' => r' = r ∧ l' ≠ l
  | .rmoveassign dst src => dst = r ∧ src ≠ r
  | .rremove r' h' => r' = r ∧ h' = h
  | .remove l' h' => l' = l ∧ h' = h
  | _ => False

theorem present_add {lists : Store SList} {l : Nat} {L' : SList} {n x : Hd}
    (hp : L'.ids.Perm (n :: (lists l).ids)) (hx : x ≠ n) (l' : Nat) :
    (upd lists l L' l').present x = (lists l').present x := by
  rw [present_upd]
  split
  · rename_i e
    rw [e, Bool.eq_iff_iff, present_iff, present_iff, hp.mem_iff, List.mem_cons]
    exact ⟨fun h => h.resolve_left hx, .inr⟩
  · rfl

theorem of_present_erase_ne {lists : Store SList} {l l' : Nat} {h x : Hd}
    (hne : (upd lists l ((lists l).remove h).1 l').present x ≠ (lists l').present x) : l' = l ∧ x = h := by
  rw [present_upd] at hne
  split at hne
  · rename_i e
    refine ⟨e, Classical.byContradiction fun hx => hne ?_⟩
    rw [present_remove, e, bne_iff_ne.mpr hx, Bool.and_true]
  · exact absurd rfl hne

theorem of_present_reset_ne {lists : Store SList} {v : Remover} {l : Nat} {x : Hd}
    (hne : (resetLists lists v l).present x ≠ (lists l).present x) : v.target = some l ∧ x ∈ v.items := by
  rw [present_resetLists] at hne
  refine Classical.byContradiction fun hn => hne ?_
  have : (decide (v.target = some l) && v.items.contains x) = false :=
    Bool.eq_false_iff.mpr fun h => hn (by simpa using h)
  rw [this, Bool.not_false, Bool.and_true]

/-- Who can change whether an issued handle `x` is present in `l`: a direct `remove l x`, or a live
    remover that records `x` with target `l`, through an operation of `MayDetach`.  No invariant
    is needed; `others` and `C15_stays` read it with `Resp`. -/
theorem frame {w : RW} {x : Hd} (hx : x ≠ w.nextId) (op : ROp) {l : Nat}
    (hne : ((step w op).1.lists l).present x ≠ (w.lists l).present x) :
    op = .remove l x ∨ ∃ r v, getRem w r = some v ∧ x ∈ v.items ∧ v.target = some l ∧ MayDetach r l x op := by
  cases op with
  | rnew r l' => simp only [step] at hne; split at hne <;> exact absurd rfl hne
  | rappend r cb =>
    simp only [step] at hne
    split at hne
    · split at hne
      · exact absurd (present_add (ids_append_perm _ _ _) hx l) hne
      · exact absurd rfl hne
    · exact absurd rfl hne
  | rprepend r cb =>
    simp only [step] at hne
    split at hne
    · split at hne
      · exact absurd (present_add (ids_prepend_perm _ _ _) hx l) hne
      · exact absurd rfl hne
    · exact absurd rfl hne
  | rinsert r cb b =>
    simp only [step] at hne
    split at hne
    · split at hne
      · exact absurd (present_add (ids_insert_perm _ _ _ _) hx l) hne
      · exact absurd rfl hne
    · exact absurd rfl hne
  | rremove r h =>
    rcases step_rremove w r h with ⟨v, l0, hr, ht, hi, _, e⟩ | ⟨_, e, _⟩ <;> rw [e] at hne
    · obtain ⟨rfl, rfl⟩ := of_present_erase_ne hne
      exact .inr ⟨r, v, hr, hi, ht, rfl, rfl⟩
    · exact absurd rfl hne
  | rreset r =>
    simp only [step] at hne
    split at hne
    · rename_i v hr
      obtain ⟨ht, hi⟩ := of_present_reset_ne hne
      exact .inr ⟨r, v, hr, hi, ht, rfl⟩
    · exact absurd rfl hne
  | rtarget r l' =>
    simp only [step] at hne
    split at hne
    · rename_i v hr
      split at hne
      · exact absurd rfl hne
      · rename_i hn
        obtain ⟨ht, hi⟩ := of_present_reset_ne hne
        exact .inr ⟨r, v, hr, hi, ht, rfl, fun e => hn (e ▸ ht)⟩
    · exact absurd rfl hne
  | rmovector dst src => simp only [step] at hne; split at hne <;> exact absurd rfl hne
  | rmoveassign dst src =>
    simp only [step] at hne
    split at hne
    · rename_i d v hd hs
      split at hne
      · exact absurd rfl hne
      · rename_i hn
        obtain ⟨ht, hi⟩ := of_present_reset_ne hne
        exact .inr ⟨dst, d, hd, hi, ht, rfl, fun e => hn e.symm⟩
    · exact absurd rfl hne
  | rswap a b => simp only [step] at hne; split at hne <;> exact absurd rfl hne
  | rdestroy r =>
    simp only [step] at hne
    split at hne
    · rename_i v hr
      obtain ⟨ht, hi⟩ := of_present_reset_ne hne
      exact .inr ⟨r, v, hr, hi, ht, rfl⟩
    · exact absurd rfl hne
  | append l' cb => exact absurd (present_add (ids_append_perm _ _ _) hx l) hne
  | remove l' h =>
    obtain ⟨rfl, rfl⟩ := of_present_erase_ne hne
    exact .inl rfl

/-- by `frame`: no live remover records a handle outside `via` (`items_via`) -/
theorem others {w : RW} (H : Resp w) {h : Hd} (hv : h ∉ w.via) (hlt : h < w.nextId) (op : ROp)
    (hop : ∀ l, op ≠ .remove l h) : ∀ l, ((step w op).1.lists l).present h = (w.lists l).present h := by
  intro l
  refine Classical.byContradiction fun hne => ?_
  rcases frame (Nat.ne_of_lt hlt) op hne with e | ⟨r, v, hr, hi, _⟩
  · exact hop l e
  · exact hv (H.items_via r v (mem_of_lk hr) h hi)

end Evp.Rem
