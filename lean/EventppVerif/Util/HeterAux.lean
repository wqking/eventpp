import EventppVerif.Util.Heter
import EventppVerif.CL.SpecLaws
/-
  Lemmas for property C14 about the model Util/Heter.lean.  First and next match are both the
  least index from a bound on; one pass of `processIf` is a filter of the queue, and the passes
  stop at the first prototype that has an accepted event; every operation changes the world in one
  of four ways, from which the invariant and the order of the queue are read off.
-/
namespace Evp.Heter

/-- `firstMatch` and `nextMatch` are both this: the least index from a bound on -/
def leastFrom (n : Nat) (ok : Nat → Bool) (lb : Nat) : Option Nat :=
  (List.range n).find? (fun i => decide (lb ≤ i) && ok i)

theorem firstMatch_eq (n : Nat) (ok : Nat → Bool) : firstMatch n ok = leastFrom n ok 0 := by
  simp [firstMatch, leastFrom]

theorem leastFrom_some {n : Nat} {ok : Nat → Bool} {lb p : Nat} :
    leastFrom n ok lb = some p ↔
      lb ≤ p ∧ p < n ∧ ok p = true ∧ ∀ q, lb ≤ q → q < p → ok q = false := by
  simp only [leastFrom, List.find?_range_eq_some, List.mem_range, Bool.and_eq_true,
    decide_eq_true_eq, Bool.not_eq_true', Bool.and_eq_false_iff, decide_eq_false_iff_not]
  constructor
  · rintro ⟨⟨h1, h2⟩, h3, h4⟩
    exact ⟨h1, h3, h2, fun q hq hqp => (h4 q hqp).resolve_left (fun h => h hq)⟩
  · rintro ⟨h1, h2, h3, h4⟩
    exact ⟨⟨h1, h3⟩, h2, fun q hqp => (Nat.lt_or_ge q lb).imp Nat.not_le_of_gt (h4 q · hqp)⟩

theorem leastFrom_none {n : Nat} {ok : Nat → Bool} {lb : Nat} :
    leastFrom n ok lb = none ↔ ∀ q, lb ≤ q → q < n → ok q = false := by
  simp only [leastFrom, List.find?_range_eq_none, Bool.not_eq_true', Bool.and_eq_false_iff,
    decide_eq_false_iff_not]
  exact ⟨fun h q hq hn => (h q hn).resolve_left (fun h => h hq),
    fun h q hn => (Nat.lt_or_ge q lb).imp Nat.not_le_of_gt (h q · hn)⟩

theorem firstMatch_some (n : Nat) (ok : Nat → Bool) (p : Nat) :
    firstMatch n ok = some p ↔ p < n ∧ ok p = true ∧ ∀ q < p, ok q = false := by
  simp [firstMatch_eq, leastFrom_some]

theorem firstMatch_none (n : Nat) (ok : Nat → Bool) :
    firstMatch n ok = none ↔ ∀ q < n, ok q = false := by
  simp [firstMatch_eq, leastFrom_none]

theorem nextMatch_some (n : Nat) (ok : Nat → Bool) (p p' : Nat) :
    nextMatch n ok p = some p' ↔
      p' < n ∧ p < p' ∧ ok p' = true ∧ ∀ q, p < q → q < p' → ok q = false :=
  leastFrom_some.trans and_left_comm

theorem nextMatch_none (n : Nat) (ok : Nat → Bool) (p : Nat) :
    nextMatch n ok p = none ↔ ∀ q, p < q → q < n → ok q = false := leastFrom_none

theorem slot_inj {key key' p p' : Nat} (hp : p < 16) (hp' : p' < 16)
    (h : slot key p = slot key' p') : key = key' ∧ p = p' := by
  unfold slot at h; omega

def HEv.isPred : HEv → Bool
  | .pred .. => true
  | _ => false

def HEv.isCall : HEv → Bool
  | .call .. => true
  | _ => false

@[simp] theorem isPred_pred (a b c : Nat) : (HEv.pred a b c).isPred = true := rfl
@[simp] theorem isPred_call (a b : Nat) (h : Hd) (cb : Cb) (c d : Nat) :
    (HEv.call a b h cb c d).isPred = false := rfl
@[simp] theorem isPred_res (s : String) : (HEv.res s).isPred = false := rfl

theorem dispatchEv_of_some {sg : Sig} {w : HW} {key kind val p : Nat}
    (h : firstMatch sg.nproto (fun p => sg.argOk p kind) = some p) :
    dispatchEv sg w key kind val =
      (w.lists (slot key p)).map (fun e => HEv.call key p e.id e.cb kind val) := by
  unfold dispatchEv callAll; rw [h]

theorem dispatchEv_of_none {sg : Sig} {w : HW} {key kind val : Nat}
    (h : firstMatch sg.nproto (fun p => sg.argOk p kind) = none) :
    dispatchEv sg w key kind val = [] := by
  unfold dispatchEv; rw [h]

theorem dispatchEv_not_pred {sg : Sig} {w : HW} {key kind val : Nat} {ev : HEv}
    (h : ev ∈ dispatchEv sg w key kind val) : ev.isPred = false := by
  unfold dispatchEv callAll at h
  split at h
  · obtain ⟨e, _, rfl⟩ := List.mem_map.1 h; rfl
  · cases h

theorem dispatchEv_noPred (sg : Sig) (w : HW) (key kind val : Nat) :
    (dispatchEv sg w key kind val).filter (fun ev => !ev.isPred) = dispatchEv sg w key kind val :=
  List.filter_eq_self.2 fun ev h => by rw [dispatchEv_not_pred h]; rfl

/-- the pass for prototype `p` removes (and dispatches) exactly these events -/
def removedBy (m r p : Nat) (e : HEvent) : Bool := decide (e.tag = p) && predVal m r e.val

section pass
variable {sg : Sig} {w : HW} {pkind m r p : Nat}

theorem ifPass_eq (q : List HEvent) :
    ifPass sg w pkind m r p q =
      (q.filter (fun e => !removedBy m r p e),
       q.flatMap (fun e =>
        if e.tag = p then
          HEv.pred pkind e.kind e.val ::
            (if predVal m r e.val then dispatchEv sg w e.key e.kind e.val else [])
        else []),
       q.any (removedBy m r p)) := by
  induction q with
  | nil => rfl
  | cons e rest ih =>
    simp only [ifPass, ih, removedBy, List.filter_cons, List.flatMap_cons, List.any_cons]
    by_cases ht : e.tag = p
    · cases predVal m r e.val <;> simp [ht]
    · simp [ht]

theorem ifPass_kept (q : List HEvent) :
    (ifPass sg w pkind m r p q).1 = q.filter (fun e => !removedBy m r p e) := by rw [ifPass_eq]

theorem ifPass_any (q : List HEvent) :
    (ifPass sg w pkind m r p q).2.2 = q.any (removedBy m r p) := by rw [ifPass_eq]

theorem ifPass_evs_noPred (q : List HEvent) :
    (ifPass sg w pkind m r p q).2.1.filter (fun ev => !ev.isPred) =
      (q.filter (removedBy m r p)).flatMap (fun e => dispatchEv sg w e.key e.kind e.val) := by
  rw [ifPass_eq]
  induction q with
  | nil => rfl
  | cons e rest ih =>
    simp only [List.flatMap_cons, List.filter_append, ih, List.filter_cons, removedBy]
    by_cases ht : e.tag = p
    · by_cases hv : predVal m r e.val = true <;> simp [ht, hv, dispatchEv_noPred]
    · simp [ht]

theorem ifPass_pred_mem {q : List HEvent} {ev : HEv}
    (h : ev ∈ (ifPass sg w pkind m r p q).2.1) (hp : ev.isPred = true) :
    ∃ e ∈ q, e.tag = p ∧ ev = HEv.pred pkind e.kind e.val := by
  rw [ifPass_eq, List.mem_flatMap] at h
  obtain ⟨e, he, hev⟩ := h
  refine ⟨e, he, ?_⟩
  split at hev
  · rename_i ht
    rcases List.mem_cons.1 hev with rfl | hev
    · exact ⟨ht, rfl⟩
    · split at hev
      · rw [dispatchEv_not_pred hev] at hp; cases hp
      · cases hev
  · cases hev

end pass

section pif
variable {sg : Sig} {w : HW} {pkind m r : Nat}

theorem processIfFrom_none (fuel : Nat) (q : List HEvent) :
    processIfFrom sg w pkind m r fuel none q = (q, [], false) := by
  cases fuel <;> rfl

/-- so the emptiness test in the definition is redundant -/
theorem processIfFrom_nil (fuel : Nat) (op : Option Nat) :
    processIfFrom sg w pkind m r fuel op [] = ([], [], false) := by
  cases fuel with
  | zero => rfl
  | succ fuel => cases op <;> rfl

theorem processIfFrom_hit {fuel p : Nat} {q : List HEvent} (h : q.any (removedBy m r p) = true) :
    processIfFrom sg w pkind m r (fuel + 1) (some p) q =
      (q.filter (fun e => !removedBy m r p e), (ifPass sg w pkind m r p q).2.1, true) := by
  -- the defining equation, its pattern-`let`s written as projections (the same term by eta)
  show (if q.isEmpty = true then _ else if (ifPass sg w pkind m r p q).2.2 = true then
    ((ifPass sg w pkind m r p q).1, _, true) else _) = _
  rw [ifPass_any, ifPass_kept, if_pos h,
    if_neg fun hq => by rw [List.isEmpty_iff.1 hq] at h; cases h]

/-- a pass that accepts nothing keeps everything: every pass of one `processIf` sees the same
    queue -/
theorem processIfFrom_miss {fuel p : Nat} {q : List HEvent} (h : q.any (removedBy m r p) = false) :
    processIfFrom sg w pkind m r (fuel + 1) (some p) q =
      let R := processIfFrom sg w pkind m r fuel
        (leastFrom sg.nproto (fun i => sg.predOk pkind i) (p + 1)) q
      (R.1, (ifPass sg w pkind m r p q).2.1 ++ R.2.1, R.2.2) := by
  show (if q.isEmpty = true then _ else if (ifPass sg w pkind m r p q).2.2 = true then _ else
    ((processIfFrom sg w pkind m r fuel _ (ifPass sg w pkind m r p q).1).1, _, _)) = _
  rw [ifPass_any, ifPass_kept, h, if_neg Bool.false_ne_true,
    List.filter_eq_self.2 fun x hx => by simpa using List.any_eq_false.1 h x hx]
  split
  · rename_i hq
    rw [List.isEmpty_iff.1 hq, processIfFrom_nil]; rfl
  · rfl

variable (sg w pkind m r)

/-- prototype `p` (at or after `lb`) is one the predicate is callable with and some queued event
    filed under it is accepted by the predicate -/
def Cand (q : List HEvent) (lb p : Nat) : Prop :=
  lb ≤ p ∧ p < sg.nproto ∧ sg.predOk pkind p = true ∧ ∃ e ∈ q, removedBy m r p e = true

/-- what the passes over `q` from the least callable prototype `≥ lb` on may return; the filter
    hides the predicate calls, which the first clause is about -/
def Outcome (q : List HEvent) (lb : Nat) (R : List HEvent × List HEv × Bool) : Prop :=
  (∀ ev ∈ R.2.1, ev.isPred = true →
    ∃ e ∈ q, sg.predOk pkind e.tag = true ∧ ev = HEv.pred pkind e.kind e.val) ∧
  ((R.2.2 = false ∧ R.1 = q ∧ R.2.1.filter (fun ev => !ev.isPred) = [] ∧
      ∀ p, ¬ Cand sg pkind m r q lb p) ∨
    (R.2.2 = true ∧
      ∃ p, Cand sg pkind m r q lb p ∧ (∀ p', p' < p → ¬ Cand sg pkind m r q lb p') ∧
        R.1 = q.filter (fun e => !removedBy m r p e) ∧
        R.2.1.filter (fun ev => !ev.isPred) =
          (q.filter (removedBy m r p)).flatMap (fun e => dispatchEv sg w e.key e.kind e.val)))

variable {sg w pkind m r} in
theorem Outcome.none {q : List HEvent} {lb : Nat} (h : ∀ p, ¬ Cand sg pkind m r q lb p) :
    Outcome sg w pkind m r q lb (q, [], false) :=
  ⟨nofun, .inl ⟨rfl, rfl, rfl, h⟩⟩

/-- `hf`: a pass that accepts nothing costs one unit of fuel and moves the bound past the prototype
    it tried, so `fuel + lb` does not drop; with no fuel left the bound is beyond `nproto` and no
    candidate remains.  `step` starts with `nproto + 1` units from bound `0`. -/
theorem processIfFrom_spec (fuel lb : Nat) (q : List HEvent) (hf : sg.nproto < fuel + lb) :
    Outcome sg w pkind m r q lb
      (processIfFrom sg w pkind m r fuel (leastFrom sg.nproto (fun i => sg.predOk pkind i) lb) q) := by
  induction fuel generalizing lb with
  | zero =>
    exact .none fun p hc => Nat.lt_irrefl _
      (Nat.lt_of_le_of_lt hc.1 (Nat.lt_trans hc.2.1 (Nat.zero_add lb ▸ hf)))
  | succ fuel ih =>
    cases hop : leastFrom sg.nproto (fun i => sg.predOk pkind i) lb with
    | none =>
      rw [processIfFrom_none]
      exact .none fun p hc => Bool.false_ne_true
        ((leastFrom_none.1 hop p hc.1 hc.2.1).symm.trans hc.2.2.1)
    | some p0 =>
      obtain ⟨hlb, hp0n, hp0ok, hmin⟩ := leastFrom_some.1 hop
      have hbelow : ∀ p, p < p0 → ¬ Cand sg pkind m r q lb p := fun p hp hc =>
        Bool.false_ne_true ((hmin p hc.1 hp).symm.trans hc.2.2.1)
      have hpass : ∀ ev ∈ (ifPass sg w pkind m r p0 q).2.1, ev.isPred = true →
          ∃ e ∈ q, sg.predOk pkind e.tag = true ∧ ev = HEv.pred pkind e.kind e.val :=
        fun ev h hp => by
          obtain ⟨e, he, ht, hev⟩ := ifPass_pred_mem h hp
          exact ⟨e, he, ht ▸ hp0ok, hev⟩
      cases hany : q.any (removedBy m r p0) with
      | true =>
        rw [processIfFrom_hit hany]
        exact ⟨hpass, .inr ⟨rfl, p0, ⟨hlb, hp0n, hp0ok, List.any_eq_true.1 hany⟩, hbelow, rfl,
          ifPass_evs_noPred _⟩⟩
      | false =>
        have hnone : ∀ e ∈ q, ¬ removedBy m r p0 e = true := List.any_eq_false.1 hany
        -- no candidate in `[lb, p0]`: the candidates from `lb` on are those from `p0 + 1` on
        have hiff : ∀ p, Cand sg pkind m r q lb p ↔ Cand sg pkind m r q (p0 + 1) p := fun p =>
          ⟨fun hc => ⟨Nat.lt_of_le_of_ne (Nat.le_of_not_lt fun hp => hbelow p hp hc)
              (fun e => by obtain ⟨x, hx, hr⟩ := hc.2.2.2; exact hnone x hx (e ▸ hr)), hc.2⟩,
           fun hc => ⟨Nat.le_trans hlb (Nat.le_of_succ_le hc.1), hc.2⟩⟩
        have hev : (ifPass sg w pkind m r p0 q).2.1.filter (fun ev => !ev.isPred) = [] := by
          rw [ifPass_evs_noPred, List.filter_eq_nil_iff.2 hnone]
          rfl
        obtain ⟨ihp, ih⟩ := ih (p0 + 1) (by omega)
        rw [processIfFrom_miss hany]
        refine ⟨fun ev h hp => (List.mem_append.1 h).elim (hpass ev · hp) (ihp ev · hp), ?_⟩
        simp only [hiff, List.filter_append, hev, List.nil_append] at ih ⊢
        exact ih

end pif

section stepEq
variable {sg : Sig} {w : HW}

theorem step_listen_some {key kind : Nat} {cb : Cb} {p : Nat}
    (h : firstMatch sg.nproto (fun p => sg.cbOk kind p) = some p) :
    step sg w (.listen key kind cb) =
      ({ w with lists := upd w.lists (slot key p) ((w.lists (slot key p)).append w.nextId cb),
                nextId := w.nextId + 1 }, [.res s!"h{w.nextId}"]) := by
  simp only [step, h]

theorem step_listen_none {key kind : Nat} {cb : Cb}
    (h : firstMatch sg.nproto (fun p => sg.cbOk kind p) = none) :
    step sg w (.listen key kind cb) = (w, [.res "nomatch"]) := by
  simp only [step, h]

theorem step_remove (key : Nat) (hd : Hd) (p : Nat) :
    step sg w (.remove key hd p) =
      ({ w with lists := upd w.lists (slot key p) ((w.lists (slot key p)).remove hd).1 },
        [.res (if ((w.lists (slot key p)).remove hd).2 then "true" else "false")]) := rfl

theorem step_dispatch (key kind val : Nat) :
    step sg w (.dispatch key kind val) = (w, dispatchEv sg w key kind val ++ [.res "unit"]) := rfl

theorem step_enqueue_some {key kind val p : Nat}
    (h : firstMatch sg.nproto (fun p => sg.argOk p kind) = some p) :
    step sg w (.enqueue key kind val) =
      ({ w with queue := w.queue ++ [⟨w.nextSeq, key, p, kind, val⟩], nextSeq := w.nextSeq + 1 },
        [.res "unit"]) := by
  simp only [step, h]

theorem step_enqueue_none {key kind val : Nat}
    (h : firstMatch sg.nproto (fun p => sg.argOk p kind) = none) :
    step sg w (.enqueue key kind val) = (w, [.res "nomatch"]) := by
  simp only [step, h]

theorem step_process_nil (h : w.queue = []) : step sg w .process = (w, [.res "false"]) := by
  simp [step, h]

theorem step_process_ne (h : w.queue ≠ []) :
    step sg w .process =
      ({ w with queue := [] },
        w.queue.flatMap (fun e => dispatchEv sg w e.key e.kind e.val) ++ [.res "true"]) := by
  simp [step, h]

theorem step_processOne_nil (h : w.queue = []) : step sg w .processOne = (w, [.res "false"]) := by
  simp only [step, h]

theorem step_processOne_cons {e : HEvent} {rest : List HEvent} (h : w.queue = e :: rest) :
    step sg w .processOne =
      ({ w with queue := rest }, dispatchEv sg w e.key e.kind e.val ++ [.res "true"]) := by
  simp only [step, h]

end stepEq

section stepIf
variable (sg : Sig) (w : HW) (pkind m r : Nat)

theorem step_processIf_eq :
    step sg w (.processIf pkind m r) =
      if w.queue.isEmpty then (w, [.res "false"]) else
      let R := processIfFrom sg w pkind m r (sg.nproto + 1)
        (firstMatch sg.nproto (fun i => sg.predOk pkind i)) w.queue
      ({ w with queue := R.1 }, R.2.1 ++ [.res (if R.2.2 then "true" else "false")]) :=
  rfl

theorem step_processIf_spec :
    ∃ R, Outcome sg w pkind m r w.queue 0 R ∧
      step sg w (.processIf pkind m r) =
        ({ w with queue := R.1 }, R.2.1 ++ [.res (if R.2.2 then "true" else "false")]) := by
  rw [step_processIf_eq, firstMatch_eq]
  split
  · rename_i hq
    refine ⟨_, .none fun p hc => ?_, rfl⟩
    obtain ⟨e, he, _⟩ := hc.2.2.2
    rw [List.isEmpty_iff.1 hq] at he; cases he
  · exact ⟨_, processIfFrom_spec sg w pkind m r (sg.nproto + 1) 0 w.queue (by omega), rfl⟩

end stepIf

/-- The four ways an operation changes the world: it takes events out of the queue (or does
    nothing), appends a fresh listener to one list, takes entries out of one list, or appends one
    fresh event filed under the first callable prototype. -/
inductive Effect (sg : Sig) (w : HW) : HW → Prop
  | queue (q : List HEvent) (h : q.Sublist w.queue) : Effect sg w { w with queue := q }
  | listen (s : Nat) (cb : Cb) :
    Effect sg w { w with lists := upd w.lists s ((w.lists s).append w.nextId cb),
                         nextId := w.nextId + 1 }
  | remove (s : Nat) (l : SList) (h : l.Sublist (w.lists s)) :
    Effect sg w { w with lists := upd w.lists s l }
  | enqueue (key p kind val : Nat) (h : firstMatch sg.nproto (fun p => sg.argOk p kind) = some p) :
    Effect sg w { w with queue := w.queue ++ [⟨w.nextSeq, key, p, kind, val⟩],
                         nextSeq := w.nextSeq + 1 }

theorem step_effect (sg : Sig) (w : HW) (op : HOp) : Effect sg w (step sg w op).1 := by
  cases op with
  | listen key kind cb =>
    cases hfm : firstMatch sg.nproto (fun p => sg.cbOk kind p) with
    | none => rw [step_listen_none hfm]; exact .queue _ (.refl _)
    | some p => rw [step_listen_some hfm]; exact .listen _ _
  | remove key hd p =>
    rw [step_remove, SList.remove_fst]
    exact .remove _ _ List.filter_sublist
  | dispatch key kind val => exact .queue _ (.refl _)
  | enqueue key kind val =>
    cases hfm : firstMatch sg.nproto (fun p => sg.argOk p kind) with
    | none => rw [step_enqueue_none hfm]; exact .queue _ (.refl _)
    | some p => rw [step_enqueue_some hfm]; exact .enqueue _ _ _ _ hfm
  | process =>
    by_cases hq : w.queue = []
    · rw [step_process_nil hq]; exact .queue _ (.refl _)
    · rw [step_process_ne hq]; exact .queue _ (List.nil_sublist _)
  | processOne =>
    cases hq : w.queue with
    | nil => rw [step_processOne_nil hq]; exact .queue _ (.refl _)
    | cons e rest =>
      rw [step_processOne_cons hq]
      exact .queue _ (hq ▸ List.sublist_cons_self _ _)
  | processIf pkind m r =>
    obtain ⟨R, ⟨_, hR⟩, hs⟩ := step_processIf_spec sg w pkind m r
    rw [hs]
    rcases hR with ⟨_, h, _⟩ | ⟨_, p, _, _, h, _⟩ <;> rw [h]
    · exact .queue _ (.refl _)
    · exact .queue _ List.filter_sublist

theorem Effect.confused {sg : Sig} {w w' : HW} (h : Effect sg w w') : w'.confused = w.confused := by
  cases h <;> rfl

theorem Effect.queue_order {sg : Sig} {w w' : HW} (h : Effect sg w w') :
    w'.queue.Sublist w.queue ∨ ∃ e, w'.queue = w.queue ++ [e] := by
  cases h with
  | queue q h => exact .inl h
  | listen => exact .inl (.refl _)
  | remove => exact .inl (.refl _)
  | enqueue => exact .inr ⟨_, rfl⟩

/-- what holds in every reachable world -/
structure WF (sg : Sig) (w : HW) : Prop where
  /-- FIFO: the queue is in enqueue order -/
  fifo : (w.queue.map (·.seq)).Pairwise (· < ·)
  fresh : ∀ e ∈ w.queue, e.seq < w.nextSeq
  /-- every queued event is filed under the first prototype callable with its argument kind -/
  tagged : ∀ e ∈ w.queue, firstMatch sg.nproto (fun p => sg.argOk p e.kind) = some e.tag
  /-- the handles of every listener list are increasing (hence distinct) and issued -/
  idsInc : ∀ s, ((w.lists s).map (·.id)).Pairwise (· < ·)
  idsFresh : ∀ s, ∀ e ∈ w.lists s, e.id < w.nextId
  unconfused : w.confused = false

theorem WF_init (sg : Sig) : WF sg {} := by
  have hl : ∀ s, ({} : HW).lists s = [] := Store.empty_get
  refine ⟨.nil, nofun, nofun, fun s => ?_, fun s e he => ?_, rfl⟩
  · rw [hl]; exact .nil
  · rw [hl] at he; cases he

/-- numbering by a counter, for handles (`nextId`) and for queued events (`nextSeq`) alike -/
theorem pairwise_append_fresh {α : Type} (f : α → Nat) {l : List α} {n : Nat}
    (hp : (l.map f).Pairwise (· < ·)) (hb : ∀ e ∈ l, f e < n) (x : α) (hx : f x = n) :
    ((l ++ [x]).map f).Pairwise (· < ·) ∧ ∀ e ∈ l ++ [x], f e < n + 1 := by
  constructor
  · rw [List.map_append, List.pairwise_append]
    refine ⟨hp, List.pairwise_singleton _ _, fun a ha b hb' => ?_⟩
    obtain ⟨e, he, rfl⟩ := List.mem_map.1 ha
    rw [List.mem_singleton.1 hb', hx]
    exact hb e he
  · intro e he
    rcases List.mem_append.1 he with he | he
    · exact Nat.lt_succ_of_lt (hb e he)
    · rw [List.mem_singleton.1 he, hx]; exact Nat.lt_succ_self _

theorem Effect.wf {sg : Sig} {w w' : HW} (he : Effect sg w w') (h : WF sg w) : WF sg w' := by
  cases he with
  | queue q hs =>
    exact ⟨h.fifo.sublist (hs.map _), fun e he => h.fresh e (hs.subset he),
      fun e he => h.tagged e (hs.subset he), h.idsInc, h.idsFresh, h.unconfused⟩
  | listen s cb =>
    have key := forall_upd (ls := w.lists)
      (P := fun l => (l.map (·.id)).Pairwise (· < ·) ∧ ∀ e ∈ l, e.id < w.nextId + 1)
      (fun s => ⟨h.idsInc s, fun e he => Nat.lt_succ_of_lt (h.idsFresh s e he)⟩) s
      (pairwise_append_fresh Entry.id (h.idsInc s) (h.idsFresh s) ⟨w.nextId, cb⟩ rfl)
    exact ⟨h.fifo, h.fresh, h.tagged, fun s => (key s).1, fun s => (key s).2, h.unconfused⟩
  | remove s l hs =>
    have key := forall_upd (ls := w.lists)
      (P := fun l => (l.map (·.id)).Pairwise (· < ·) ∧ ∀ e ∈ l, e.id < w.nextId)
      (fun s => ⟨h.idsInc s, h.idsFresh s⟩) s
      ⟨(h.idsInc s).sublist (hs.map _), fun e he => h.idsFresh s e (hs.subset he)⟩
    exact ⟨h.fifo, h.fresh, h.tagged, fun s => (key s).1, fun s => (key s).2, h.unconfused⟩
  | enqueue key p kind val hfm =>
    have hq := pairwise_append_fresh HEvent.seq h.fifo h.fresh ⟨w.nextSeq, key, p, kind, val⟩ rfl
    refine ⟨hq.1, hq.2, fun e he => ?_, h.idsInc, h.idsFresh, h.unconfused⟩
    rcases List.mem_append.1 he with he | he
    · exact h.tagged e he
    · rw [List.mem_singleton.1 he]; exact hfm

theorem run_nil (sg : Sig) (w : HW) : run sg w [] = (w, []) := rfl

theorem run_cons (sg : Sig) (w : HW) (op : HOp) (ops : List HOp) :
    run sg w (op :: ops) =
      ((run sg (step sg w op).1 ops).1, (step sg w op).2 ++ (run sg (step sg w op).1 ops).2) := rfl

theorem WF_run {sg : Sig} {w : HW} (h : WF sg w) (ops : List HOp) : WF sg (run sg w ops).1 := by
  induction ops generalizing w with
  | nil => exact h
  | cons op ops ih =>
    rw [run_cons]
    exact ih ((step_effect sg w op).wf h)

end Evp.Heter
