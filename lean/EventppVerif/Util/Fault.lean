/-
  Generic fault model for property C09 (exception safety).

  An operation of the library is a *step table*: the sequence of points at which memory is
  allocated (`alloc`, may throw `bad_alloc`), user code runs (`user`: a copy / move / comparison /
  hash / call of a user type, may throw anything) or the shared structure is written (`mutate`).
  The writes themselves (pointer assignments, `splice`, `swap`, counter updates) do not throw.

  `runFault steps k s` runs the table from state `s` and lets the `k`-th fault point throw; it
  returns the state at the throw — what the caller finds after the exception has reached it — and
  whether anything was thrown at all.

  The *strong* guarantee ("the object is exactly as it was before the call") is a property of the
  shape of the table: every fault point precedes every write (`FaultsFirst`: allocate-then-link,
  copy-and-swap).  The *basic* guarantee is what holds for every table: the state at the throw is
  the result of exactly the writes that precede the throwing point (`prefixBefore`).

  The tables of the concrete operations are at the end of the file, each with the place in the
  source it is read off from, and whether it has the shape.  The property theorems are in
  `Properties/C09.lean`.
-/
namespace Evp.Fault

inductive Step (σ : Type)
  /-- a memory allocation (may throw `bad_alloc`) -/
  | alloc
  /-- user code runs: copy / move / compare / hash / call (may throw) -/
  | user (kind : Nat)
  /-- a write to the shared structure (does not throw) -/
  | mutate (f : σ → σ)

/-- kinds of user code, for the readability of the tables only -/
abbrev kCopy : Nat := 0
abbrev kMove : Nat := 1
abbrev kCompare : Nat := 2
abbrev kHash : Nat := 3
abbrev kCall : Nat := 4

variable {σ : Type}

namespace Step

def isFaultPoint : Step σ → Bool
  | .alloc => true
  | .user _ => true
  | .mutate _ => false

def isMutate : Step σ → Bool
  | .mutate _ => true
  | _ => false

end Step

/-- run the steps; nothing throws -/
def runAll : List (Step σ) → σ → σ
  | [], s => s
  | .mutate f :: r, s => runAll r (f s)
  | .alloc :: r, s => runAll r s
  | .user _ :: r, s => runAll r s

/-- run the steps; the `k`-th fault point (0-based, counting `alloc` and `user` steps in order)
    throws.  Returns the state at the throw (the writes before it applied) and whether it threw. -/
def runFault : List (Step σ) → Nat → σ → σ × Bool
  | [], _, s => (s, false)
  | .mutate f :: r, k, s => runFault r k (f s)
  | .alloc :: _, 0, s => (s, true)
  | .alloc :: r, k + 1, s => runFault r k s
  | .user _ :: _, 0, s => (s, true)
  | .user _ :: r, k + 1, s => runFault r k s

/-- number of fault points of a table -/
def faultPoints (steps : List (Step σ)) : Nat := steps.countP Step.isFaultPoint

/-- the steps executed before the `k`-th fault point throws (all of them if there is no such
    point) -/
def prefixBefore : List (Step σ) → Nat → List (Step σ)
  | [], _ => []
  | .mutate f :: r, k => .mutate f :: prefixBefore r k
  | .alloc :: _, 0 => []
  | .alloc :: r, k + 1 => .alloc :: prefixBefore r k
  | .user _ :: _, 0 => []
  | .user n :: r, k + 1 => .user n :: prefixBefore r k

/-- allocate-then-link / copy-and-swap shape: every fault point precedes every write -/
def FaultsFirst (steps : List (Step σ)) : Prop :=
  ∃ pre post, steps = pre ++ post ∧ (∀ st ∈ pre, st.isMutate = false) ∧
    (∀ st ∈ post, st.isFaultPoint = false)

/-- executable form of `FaultsFirst`: no fault point after the first write -/
def faultsFirstB : List (Step σ) → Bool
  | [] => true
  | .mutate _ :: r => r.all (fun st => !st.isFaultPoint)
  | .alloc :: r => faultsFirstB r
  | .user _ :: r => faultsFirstB r

@[simp] theorem faultPoints_nil : faultPoints ([] : List (Step σ)) = 0 := rfl
@[simp] theorem faultPoints_mutate (f : σ → σ) (r : List (Step σ)) :
    faultPoints (.mutate f :: r) = faultPoints r := by simp [faultPoints, Step.isFaultPoint]
@[simp] theorem faultPoints_alloc (r : List (Step σ)) :
    faultPoints (.alloc :: r) = faultPoints r + 1 := by simp [faultPoints, List.countP_cons, Step.isFaultPoint]
@[simp] theorem faultPoints_user (n : Nat) (r : List (Step σ)) :
    faultPoints (.user n :: r) = faultPoints r + 1 := by simp [faultPoints, List.countP_cons, Step.isFaultPoint]
theorem faultPoints_append (l m : List (Step σ)) :
    faultPoints (l ++ m) = faultPoints l + faultPoints m := by simp [faultPoints]

theorem runFault_eq (steps : List (Step σ)) (k : Nat) (s : σ) :
    runFault steps k s = (runAll (prefixBefore steps k) s, decide (k < faultPoints steps)) := by
  fun_induction runFault steps k s <;> simp [prefixBefore, runAll, *]

theorem prefixBefore_prefix (steps : List (Step σ)) (k : Nat) : prefixBefore steps k <+: steps := by
  fun_induction prefixBefore steps k <;> simp [List.cons_prefix_cons, *]

theorem prefixBefore_spec {steps : List (Step σ)} {k : Nat} (h : k < faultPoints steps) :
    ∃ fp rest, steps = prefixBefore steps k ++ fp :: rest ∧ fp.isFaultPoint = true ∧
      faultPoints (prefixBefore steps k) = k := by
  fun_induction prefixBefore steps k with
  | case1 => cases h
  | case3 r => exact ⟨.alloc, r, rfl, rfl, rfl⟩
  | case5 n r => exact ⟨.user n, r, rfl, rfl, rfl⟩
  | case2 f r k ih | case4 r k ih | case6 n r k ih =>
    obtain ⟨fp, rest, h1, h2, h3⟩ := ih (by simpa using h)
    exact ⟨fp, rest, congrArg _ h1, h2, by simpa using h3⟩

theorem prefixBefore_of_ge {steps : List (Step σ)} {k : Nat} (h : faultPoints steps ≤ k) :
    prefixBefore steps k = steps := by
  fun_induction prefixBefore steps k <;> simp_all <;> omega

theorem runFault_of_ge {steps : List (Step σ)} {k : Nat} (h : faultPoints steps ≤ k) (s : σ) :
    runFault steps k s = (runAll steps s, false) := by
  rw [runFault_eq, prefixBefore_of_ge h, decide_eq_false (Nat.not_lt.2 h)]

theorem runAll_append (l m : List (Step σ)) (s : σ) : runAll (l ++ m) s = runAll m (runAll l s) := by
  fun_induction runAll l s <;> simp [runAll, *]

theorem runAll_preserves {P : σ → Prop} {l : List (Step σ)}
    (h : ∀ f, Step.mutate f ∈ l → ∀ s, P s → P (f s)) {s : σ} (hs : P s) : P (runAll l s) := by
  fun_induction runAll l s with
  | case1 => exact hs
  | case2 f r s ih => exact ih (fun g hg => h g (.tail _ hg)) (h f (.head _) s hs)
  | case3 r s ih | case4 n r s ih => exact ih (fun g hg => h g (.tail _ hg)) hs

theorem runAll_noMutate {l : List (Step σ)} (h : ∀ st ∈ l, st.isMutate = false) (s : σ) :
    runAll l s = s :=
  runAll_preserves (P := (· = s)) (fun _ hf => nomatch h _ hf) rfl

theorem FaultsFirst.cons {st : Step σ} {r : List (Step σ)} (hst : st.isMutate = false) :
    FaultsFirst r → FaultsFirst (st :: r)
  | ⟨pre, post, e, hpre, hpost⟩ =>
    ⟨st :: pre, post, congrArg _ e, List.forall_mem_cons.2 ⟨hst, hpre⟩, hpost⟩

theorem FaultsFirst.of_check {steps : List (Step σ)} (h : faultsFirstB steps = true) :
    FaultsFirst steps := by
  fun_induction faultsFirstB steps with
  | case1 => exact ⟨[], [], rfl, nofun, nofun⟩
  | case2 f r =>
    exact ⟨[], .mutate f :: r, rfl, nofun,
      List.forall_mem_cons.2 ⟨rfl, fun st hst => by simpa using List.all_eq_true.1 h st hst⟩⟩
  | case3 r ih | case4 n r ih => exact (ih h).cons rfl

/-- an operation that runs no user code and allocates nothing (`remove`, `swap`, move) -/
theorem FaultsFirst.of_noFault {steps : List (Step σ)} (h : ∀ st ∈ steps, st.isFaultPoint = false) :
    FaultsFirst steps := ⟨[], steps, rfl, by simp, h⟩

/-- an operation that writes nothing (`peekEvent`, `has`, `forEach` of a read-only function) -/
theorem FaultsFirst.of_noMutate {steps : List (Step σ)} (h : ∀ st ∈ steps, st.isMutate = false) :
    FaultsFirst steps := ⟨steps, [], by simp, h, by simp⟩

/-- an operation of a history: its table, and the fault point that throws (if any) -/
abbrev Op (σ : Type) := List (Step σ) × Option Nat

/-- the state the operation leaves (at its end, or at the throw) -/
def Op.run (op : Op σ) (s : σ) : σ :=
  match op.2 with
  | none => runAll op.1 s
  | some k => (runFault op.1 k s).1

/-- the operation ended with an exception -/
def Op.threw (op : Op σ) : Bool :=
  match op.2 with
  | none => false
  | some k => decide (k < faultPoints op.1)

def runHistory (h : List (Op σ)) (s : σ) : σ := h.foldl (fun s op => op.run s) s

/-- the history with the operations that threw left out, and no fault injected into the others -/
def unfaulted (h : List (Op σ)) : List (Op σ) :=
  (h.filter (fun op => !op.threw)).map (fun op => (op.1, none))

theorem Op.threw_spec (op : Op σ) (s : σ) :
    op.threw = match op.2 with
      | none => false
      | some k => (runFault op.1 k s).2 := by
  unfold Op.threw
  split
  · rfl
  · rw [runFault_eq]

theorem Op.run_of_not_threw {op : Op σ} (h : op.threw = false) (s : σ) : op.run s = runAll op.1 s := by
  unfold Op.threw at h
  unfold Op.run
  split
  · rfl
  · rename_i k hk
    simp only [hk, decide_eq_false_iff_not, Nat.not_lt] at h
    rw [runFault_of_ge h]

/-! ### the tables of the concrete operations

  State of a callback list: the callbacks in list order.  State of a queue: the queued events in
  queue order.  State of a scoped remover together with its list: the callbacks attached to the
  list, and the callbacks the remover has recorded for removal. -/

abbrev CL := List Nat
abbrev Qu := List Nat

/-- `CallbackList::append` (callbacklist.h, `append`): `doAllocateNode(callback)` =
    `std::make_shared<Node>(callback, counter)` allocates the node and copy-constructs the callback
    into it, *then* the mutex is taken and `doAppend` links the node (pointer writes only). -/
def appendSteps (cb : Nat) : List (Step CL) :=
  [.alloc, .user kCopy, .mutate (· ++ [cb])]

/-- `CallbackList::prepend`: same shape, the node is linked at the head. -/
def prependSteps (cb : Nat) : List (Step CL) :=
  [.alloc, .user kCopy, .mutate (cb :: ·)]

/-- `CallbackList::insert(callback, before)`: `before.lock()` (no throw), `doAllocateNode`, then
    `doInsert` in front of position `i` (or `doAppend` when `before` is gone: `i ≥ length`). -/
def insertSteps (cb : Nat) (i : Nat) : List (Step CL) :=
  [.alloc, .user kCopy, .mutate (fun l => l.take i ++ cb :: l.drop i)]

/-- `CallbackList::remove(handle)`: `handle.lock()`, `doFreeNode`: pointer writes and the release
    of a `shared_ptr`; destructors do not throw.  No fault point at all. -/
def removeSteps (i : Nat) : List (Step CL) :=
  [.mutate (fun l => l.eraseIdx i)]

/-- `CallbackListBase::operator=(const CallbackListBase &)` (copy-and-swap):
    `CallbackListBase copied(other)` runs `cloneFrom` — per node of `other` one `make_shared<Node>`
    (allocation) and one copy of the callback — into a *local* list; then `swap(copied)` (noexcept,
    pointer writes).  A throw destroys `copied` only.
    `HeterCallbackListBase::operator=(const &)` has the same shape (and is no longer declared
    `noexcept`: fix cdc8c7c, recorded under "fixed" for C09). -/
def assignSteps (other : CL) : List (Step CL) :=
  other.flatMap (fun _ => [Step.alloc, Step.user kCopy]) ++ [.mutate (fun _ => other)]

/-- `EventQueue::enqueue` (eventqueue.h, `enqueue` / `doEnqueue`), `std::list` policy:
    `QueuedEvent{getEvent(args...), QueuedEventArgumentsType(std::forward<A>(args)...)}` copies /
    moves the arguments into a temporary; `doEnqueue` takes a recycled slot from `freeList` into a
    local `tempList` or `emplace_back`s a new one (allocation); `it->set(std::move(item))` moves the
    event into the slot; only then `queueList.splice(queueList.end(), tempList, it)` (pointer
    writes).  A throw before the splice destroys the local `tempList`; `queueList` is untouched.
    (A recycled slot that was already taken out of `freeList` is destroyed with `tempList`: the
    recycling cache is one node shorter, which no member function reports.) -/
def enqueueSteps (e : Nat) : List (Step Qu) :=
  [.user kMove, .alloc, .user kMove, .mutate (· ++ [e])]

/-- `EventQueue::peekEvent`: `*queuedEvent = queueList.front().get()` — one copy assignment of the
    user's event type into the caller's object; the queue is only read. -/
def peekSteps : List (Step Qu) :=
  [.user kCopy]

/-- state of a remover utility and the list it works on -/
structure RS where
  /-- callbacks attached to the callback list / dispatcher -/
  attached : List Nat
  /-- callbacks recorded in `itemList`, i.e. those the remover will detach -/
  recorded : List Nat
deriving DecidableEq, Repr

/-- the order a repaired `ScopedRemover::append` would use (reserve the record first, then attach,
    then fill the record in: no fault point after the first write) -/
def removerAppendFixedSteps (cb : Nat) : List (Step RS) :=
  [.alloc, .alloc, .user kCopy,
   .mutate (fun s => { s with attached := s.attached ++ [cb] }),
   .mutate (fun s => { s with recorded := s.recorded ++ [cb] })]

/-- the REAL `ScopedRemover::appendListener` / `append` (utilities/scopedremover.h):
    `Item item { event, dispatcher->appendListener(event, listener) }` runs the whole `append` of
    the list — node allocation, callback copy, link — and only then `itemList.push_back(item)`
    allocates the record.  Not `FaultsFirst`: known finding `rem.append:unrecorded-listener`. -/
def scopedRemoverAppendSteps (cb : Nat) : List (Step RS) :=
  [.alloc, .user kCopy,
   .mutate (fun s => { s with attached := s.attached ++ [cb] }),
   .alloc,
   .mutate (fun s => { s with recorded := s.recorded ++ [cb] })]

/-- state of a copy in progress: the source container and the destination under construction -/
structure CopyS where
  src : List Nat
  dst : List Nat
deriving DecidableEq, Repr

/-- copy construction (`CallbackListBase(const CallbackListBase &)`, `cloneFrom`): per node of the
    source one allocation and one callback copy, then the new node is linked to the destination.
    The destination grows while fault points are still ahead (not `FaultsFirst`), the source is
    only read. -/
def copyCtorSteps (src : List Nat) : List (Step CopyS) :=
  src.flatMap (fun x => [Step.alloc, Step.user kCopy,
    Step.mutate (fun s => { s with dst := s.dst ++ [x] })])

theorem appendSteps_faultsFirst (cb : Nat) : FaultsFirst (appendSteps cb) := .of_check rfl
theorem prependSteps_faultsFirst (cb : Nat) : FaultsFirst (prependSteps cb) := .of_check rfl
theorem insertSteps_faultsFirst (cb i : Nat) : FaultsFirst (insertSteps cb i) := .of_check rfl
theorem removeSteps_faultsFirst (i : Nat) : FaultsFirst (removeSteps i) := .of_check rfl
theorem enqueueSteps_faultsFirst (e : Nat) : FaultsFirst (enqueueSteps e) := .of_check rfl
theorem peekSteps_faultsFirst : FaultsFirst peekSteps := .of_check rfl
theorem removerAppendFixedSteps_faultsFirst (cb : Nat) : FaultsFirst (removerAppendFixedSteps cb) :=
  .of_check rfl

theorem assignSteps_faultsFirst (other : CL) : FaultsFirst (assignSteps other) := by
  refine ⟨_, _, rfl, ?_, ?_⟩
  · intro st hst
    simp only [List.mem_flatMap, List.mem_cons, List.not_mem_nil, or_false] at hst
    obtain ⟨_, _, rfl | rfl⟩ := hst <;> rfl
  · intro st hst
    simp only [List.mem_singleton] at hst
    subst hst
    rfl

theorem faultPoints_assignSteps (other : CL) : faultPoints (assignSteps other) = 2 * other.length := by
  simp [assignSteps, faultPoints, List.countP_flatMap, Function.comp_def, Step.isFaultPoint,
    List.countP_cons, List.map_const', Nat.mul_comm]

theorem copyCtor_fault (rest : List Nat) (k : Nat) (S done : List Nat) :
    (runFault (copyCtorSteps rest) k ⟨S, done⟩).1.src = S ∧
    ∃ m, m <+: rest ∧ (runFault (copyCtorSteps rest) k ⟨S, done⟩).1.dst = done ++ m := by
  induction rest generalizing k done with
  | nil => exact ⟨rfl, [], List.prefix_refl _, (List.append_nil _).symm⟩
  | cons x r ih =>
    match k with
    | 0 | 1 => exact ⟨rfl, [], List.nil_prefix, (List.append_nil _).symm⟩
    | k + 2 =>
      show (runFault (copyCtorSteps r) k ⟨S, done ++ [x]⟩).1.src = S ∧
        ∃ m, m <+: x :: r ∧ (runFault (copyCtorSteps r) k ⟨S, done ++ [x]⟩).1.dst = done ++ m
      obtain ⟨h1, m, hm, h2⟩ := ih k (done ++ [x])
      exact ⟨h1, x :: m, List.cons_prefix_cons.mpr ⟨rfl, hm⟩, by rw [h2, List.append_assoc]; rfl⟩

end Evp.Fault
