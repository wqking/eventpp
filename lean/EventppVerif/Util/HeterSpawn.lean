import EventppVerif.Util.HeterAux
/-
  Heterogeneous queue with listeners that enqueue while they run.

  `step` (Util/Heter.lean) describes non-re-entrant histories.  The only re-entrant effect the
  queue part of property C14 speaks about is an `enqueue` performed by a listener while a
  processing call runs: the processing call has swapped / spliced the pending events out, so the
  new event is linked into the (then empty, or not-yet-examined) `queueList`, and whatever the
  processing call puts back (`processIf`: the events it did not consume) goes IN FRONT of it.
  Listeners do not change listener lists here, so the calls of one operation are those of `step`;
  the events they enqueue are appended, in call order, behind everything the operation leaves.

  `Spawn` is the listeners' enqueue behaviour: called with (key, cb, val) a listener may enqueue
  one event (key', kind', val').
-/
namespace Evp.Heter

abbrev Spawn := Nat → Cb → Nat → Option (Nat × Nat × Nat)

/-- the events enqueued by the listener calls of one operation, in call order -/
def spawnedOf (sp : Spawn) (evs : List HEv) : List (Nat × Nat × Nat) :=
  evs.filterMap (fun e => match e with
    | .call key _ _ cb _ val => sp key cb val
    | _ => none)

/-- `enqueue` without a reported result (performed inside a listener) -/
def enqueueQuiet (sg : Sig) (w : HW) (x : Nat × Nat × Nat) : HW :=
  (step sg w (.enqueue x.1 x.2.1 x.2.2)).1

def enqueueAll (sg : Sig) (w : HW) (xs : List (Nat × Nat × Nat)) : HW :=
  xs.foldl (enqueueQuiet sg) w

/-- one top-level operation with spawning listeners -/
def stepS (sg : Sig) (sp : Spawn) (w : HW) (op : HOp) : HW × List HEv :=
  let r := step sg w op
  (enqueueAll sg r.1 (spawnedOf sp r.2), r.2)

def runS (sg : Sig) (sp : Spawn) : HW → List HOp → HW × List HEv
  | w, [] => (w, [])
  | w, op :: r =>
    let (w', e) := stepS sg sp w op
    let (w'', es) := runS sg sp w' r
    (w'', e ++ es)

theorem enqueueQuiet_queue (sg : Sig) (w : HW) (x : Nat × Nat × Nat) :
    ∃ added, (enqueueQuiet sg w x).queue = w.queue ++ added ∧
      (enqueueQuiet sg w x).lists = w.lists ∧ added.length ≤ 1 ∧
      ∀ e ∈ added, e.key = x.1 ∧ e.kind = x.2.1 ∧ e.val = x.2.2 ∧
        firstMatch sg.nproto (fun p => sg.argOk p x.2.1) = some e.tag := by
  unfold enqueueQuiet
  cases h : firstMatch sg.nproto (fun p => sg.argOk p x.2.1) with
  | none =>
    rw [step_enqueue_none h]
    exact ⟨[], (List.append_nil _).symm, rfl, Nat.zero_le _, nofun⟩
  | some p =>
    rw [step_enqueue_some h]
    exact ⟨[_], rfl, rfl, Nat.le_refl _, fun e he => by
      rw [List.mem_singleton.1 he]; exact ⟨rfl, rfl, rfl, rfl⟩⟩

theorem enqueueAll_prefix (sg : Sig) (xs : List (Nat × Nat × Nat)) (w : HW) :
    ∃ added, (enqueueAll sg w xs).queue = w.queue ++ added ∧
      (enqueueAll sg w xs).lists = w.lists ∧ added.length ≤ xs.length ∧
      ∀ e ∈ added, ∃ x ∈ xs, e.key = x.1 ∧ e.kind = x.2.1 ∧ e.val = x.2.2 ∧
        firstMatch sg.nproto (fun p => sg.argOk p x.2.1) = some e.tag := by
  induction xs generalizing w with
  | nil => exact ⟨[], (List.append_nil _).symm, rfl, Nat.le_refl _, nofun⟩
  | cons x xs ih =>
    obtain ⟨a1, hq, hl, hn, hm⟩ := enqueueQuiet_queue sg w x
    obtain ⟨a2, h1, h2, h3, h4⟩ := ih (enqueueQuiet sg w x)
    refine ⟨a1 ++ a2, h1.trans (by rw [hq, List.append_assoc]), h2.trans hl, ?_, fun e he => ?_⟩
    · rw [List.length_append, List.length_cons, Nat.add_comm]; exact Nat.add_le_add h3 hn
    · rcases List.mem_append.1 he with he | he
      · exact ⟨x, List.mem_cons_self, hm e he⟩
      · obtain ⟨y, hy, rest⟩ := h4 e he
        exact ⟨y, List.mem_cons_of_mem _ hy, rest⟩

/-! ### a listener that empties its own heterogeneous list while it runs

`list = HeterCallbackList()` from inside a callback of `list` (the "remove everything" idiom of the
heterogeneous API).  The invocation in flight holds the per-prototype list it selected
(`doGetCallbackList` hands out an owning pointer), so it goes on over the callbacks it started on - the
calls of the operation are those of `step` - and the container is empty afterwards. -/

/-- does the listener `cb` of event `key` empty the lists of `key` when it is called? -/
abbrev Clear := Nat → Cb → Bool

def clearedKeys (cl : Clear) (evs : List HEv) : List Nat :=
  evs.filterMap (fun e => match e with
    | .call key _ _ cb _ _ => if cl key cb then some key else none
    | _ => none)

/-- every per-prototype list of `key` becomes empty -/
def clearKey (n : Nat) (w : HW) (key : Nat) : HW :=
  { w with lists := (List.range n).foldl (fun ls p => upd ls (slot key p) default) w.lists }

/-- one top-level operation with listeners that enqueue and listeners that empty their list (the
    lists are emptied when the whole operation has ended) -/
def stepC (sg : Sig) (sp : Spawn) (cl : Clear) (w : HW) (op : HOp) : HW × List HEv :=
  let r := stepS sg sp w op
  ((clearedKeys cl r.2).foldl (clearKey sg.nproto) r.1, r.2)

/-- by definition of `stepC`: the calls are those of `step` in the world before the operation -/
theorem stepC_calls (sg : Sig) (sp : Spawn) (cl : Clear) (w : HW) (op : HOp) :
    (stepC sg sp cl w op).2 = (step sg w op).2 := rfl

theorem stepC_fst (sg : Sig) (sp : Spawn) (cl : Clear) (w : HW) (op : HOp) :
    (stepC sg sp cl w op).1 =
      (clearedKeys cl (step sg w op).2).foldl (clearKey sg.nproto) (stepS sg sp w op).1 := rfl

theorem foldl_clearKey_queue (n : Nat) (ks : List Nat) (w : HW) :
    (ks.foldl (clearKey n) w).queue = w.queue := by
  induction ks generalizing w with
  | nil => rfl
  | cons k ks ih => exact ih _

theorem foldl_upd_get (key : Nat) (ps : List Nat) (ls : Store SList) (j : Nat) :
    (ps.foldl (fun ls p => upd ls (slot key p) default) ls) j =
      if ∃ p ∈ ps, j = slot key p then default else ls j := by
  induction ps generalizing ls with
  | nil => simp
  | cons p ps ih =>
    rw [List.foldl_cons, ih, upd_get]
    by_cases h2 : j = slot key p
    · rw [if_pos h2, ite_self, if_pos ⟨p, .head _, h2⟩]
    · rw [if_neg h2]
      by_cases h1 : ∃ q ∈ ps, j = slot key q
      · rw [if_pos h1, if_pos (h1.imp fun q hq => ⟨.tail _ hq.1, hq.2⟩)]
      · rw [if_neg h1, if_neg fun ⟨q, hq, h⟩ => by
          cases hq with
          | head => exact h2 h
          | tail _ hq => exact h1 ⟨q, hq, h⟩]

theorem stepC_none (sg : Sig) (sp : Spawn) (w : HW) (op : HOp) :
    stepC sg sp (fun _ _ => false) w op = stepS sg sp w op := by
  have h : clearedKeys (fun _ _ => false) (stepS sg sp w op).2 = [] :=
    List.filterMap_eq_nil_iff.2 fun e _ => by cases e <;> rfl
  show (List.foldl _ _ (clearedKeys _ (stepS sg sp w op).2), _) = _
  rw [h]; rfl

end Evp.Heter
