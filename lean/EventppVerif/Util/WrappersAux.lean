import EventppVerif.Util.Wrappers
import EventppVerif.CL.SpecLaws
import EventppVerif.CL.MachineLemmas
/-
  Helper lemmas for property C16 (CounterRemover / ConditionalRemover): the arithmetic of the
  32-bit trigger count, the generic "remove yourself when due" wrapper, and the invariant of the
  Spec machine that bounds the calls of the wrapped listener.
-/
namespace Evp.Wrap
open Evp.Gen.Remover SList

theorem dec32_of_ne {x : Int} (h : x ≠ intMin) : dec32 x = x - 1 :=
  if_neg h

/-- one call of the wrapper (the regenerated `Gen.Remover.call`, unfolded): the removal is due iff
    the stored count is `≤ 1`; otherwise the count is decremented, and the decrement is applied to
    a value `> 1`, so it is the true subtraction (no wrap at `INT_MIN`) -/
theorem call_eq (c : Int) : call c = if c ≤ 1 then (true, c) else (false, c - 1) := by
  unfold call
  split
  · rfl
  · rw [dec32_of_ne (by unfold intMin; omega)]

theorem call_fst (c : Int) : (call c).1 = decide (c ≤ 1) := by
  rw [call_eq]; split <;> simp [*]

theorem call_snd (c : Int) : (call c).2 = if c ≤ 1 then c else c - 1 := by
  rw [call_eq]; split <;> rfl

theorem call_not_due {c : Int} (h : (call c).1 = false) :
    c > 1 ∧ c ≠ intMin ∧ (call c).2 = dec32 c ∧ dec32 c = c - 1 := by
  unfold call at h ⊢
  split at h
  · cases h
  · rename_i hc
    rw [if_neg hc]
    have hne : c ≠ intMin := by unfold intMin; omega
    exact ⟨by omega, hne, rfl, dec32_of_ne hne⟩

theorem countAfter_succ : ∀ (k : Nat) (n : Int), countAfter (k + 1) n = (call (countAfter k n)).2
  | 0, _ => rfl
  | k + 1, n => countAfter_succ k (call n).2

theorem countAfter_eq : ∀ (k : Nat) (n : Int),
    countAfter k n = if n ≤ 1 then n else max (n - k) 1
  | 0, n => by
    simp only [countAfter]
    split <;> omega
  | k + 1, n => by
    rw [countAfter_succ, countAfter_eq k, call_snd]
    split
    · rfl
    · split <;> omega

theorem counterDue_iff (n : Int) (k : Nat) :
    counterDue n k = true ↔ (k + 1 : Int) ≥ max n 1 := by
  simp only [counterDue, call_fst, countAfter_eq, decide_eq_true_eq]
  split <;> omega

theorem counterDue_eq (n : Int) (k : Nat) : counterDue n k = decide ((max n 1).toNat ≤ k + 1) := by
  rw [Bool.eq_iff_iff, counterDue_iff, decide_eq_true_eq]; omega

def wrapBeh (w : Cb) (due : Call → Nat → Bool) (inner : Beh) : Beh := fun call nth =>
  if call.cb = w ∧ call.enum = false ∧ due call nth = true then
    .op (.remove call.list call.h) (fun _ => inner call nth)
  else inner call nth

theorem counterBeh_eq (w : Cb) (n : Int) (inner : Beh) :
    counterBeh w n inner = wrapBeh w (fun _ nth => counterDue n nth) inner := rfl

theorem condBeh_eq (w : Cb) (cond : Nat → Bool) (inner : Beh) :
    condBeh w cond inner = wrapBeh w (fun call _ => cond call.arg) inner := rfl

/-- commands that never register callback `w` again, never enumerate list `lw` (an enumeration
    visit is counted as a call by the machines but does not run the wrapper) and never copy,
    move or swap list `lw` (the model's wrapper removes `call.list call.h`, the library's the list
    and handle captured at registration: the same only while the entry stays in its list) -/
def CmdOK (w lw : Nat) : Cmd → Prop
  | .append _ cb => cb ≠ w
  | .prepend _ cb => cb ≠ w
  | .insert _ cb _ => cb ≠ w
  | .enum l _ => l ≠ lw
  | .copyAssign dst src => dst ≠ lw ∧ src ≠ lw
  | .moveAssign dst src => dst ≠ lw ∧ src ≠ lw
  | .swap a b => a ≠ lw ∧ b ≠ lw
  | _ => True

/-- every command of the interaction tree, whatever results the earlier ones returned, is `CmdOK` -/
inductive Clean (w lw : Nat) : Prog → Prop
  | ret (v : Bool) : Clean w lw (.ret v)
  | op (c : Cmd) (k : Res → Prog) : CmdOK w lw c → (∀ r, Clean w lw (k r)) → Clean w lw (.op c k)

theorem Clean.inv {w lw c k} (h : Clean w lw (.op c k)) : CmdOK w lw c ∧ ∀ r, Clean w lw (k r) := by
  cases h with
  | op _ _ h1 h2 => exact ⟨h1, h2⟩

theorem wrapBeh_clean {w lw w' due inner} (hin : ∀ call nth, Clean w lw (inner call nth)) (call : Call)
    (nth : Nat) : Clean w lw (wrapBeh w' due inner call nth) := by
  unfold wrapBeh
  split
  · exact Clean.op _ _ trivial (fun _ => hin call nth)
  · exact hin call nth

/-- has some recorded call of `w` found its test true? (`nth` = number of earlier calls of `w`) -/
def fired (w : Cb) (due : Call → Nat → Bool) : List Ev → Bool
  | [] => false
  | .call cl :: tr => (cl.cb == w && due cl (countCalls tr w)) || fired w due tr
  | .res _ :: tr => fired w due tr

theorem fired_call (w : Cb) (due : Call → Nat → Bool) (cl : Call) (tr : List Ev) :
    fired w due (.call cl :: tr) = ((cl.cb == w && due cl (countCalls tr w)) || fired w due tr) := rfl

/-- every recorded call of `w` is an invocation of entry `⟨hw, w⟩` of list `lw` made while no
    earlier call had found its test true -/
def TraceOK (w lw hw : Nat) (due : Call → Nat → Bool) : List Ev → Prop
  | [] => True
  | .call cl :: tr =>
    (cl.cb = w → cl.enum = false ∧ cl.list = lw ∧ cl.h = hw ∧ fired w due tr = false) ∧ TraceOK w lw hw due tr
  | .res _ :: tr => TraceOK w lw hw due tr

theorem traceOK_of_count_zero {w lw hw due} : ∀ (tr : List Ev), countCalls tr w = 0 →
    TraceOK w lw hw due tr ∧ fired w due tr = false
  | [], _ => ⟨trivial, rfl⟩
  | .res r :: tr, h => traceOK_of_count_zero tr h
  | .call cl :: tr, h => by
    rw [countCalls_call] at h
    have hne : cl.cb ≠ w := by intro e; simp [e] at h
    have ih := traceOK_of_count_zero (w := w) (lw := lw) (hw := hw) (due := due) tr (by omega)
    refine ⟨⟨fun e => absurd e hne, ih.1⟩, ?_⟩
    rw [fired_call, beq_false_of_ne hne, Bool.false_and, Bool.false_or, ih.2]

/-- callback `w` is registered at most as entry `⟨hw, w⟩` of list `lw`, handle `hw` is used by
    no other entry, and `hw` has been issued -/
structure LInv (w lw hw : Nat) (lists : Store SList) (nextId : Nat) : Prop where
  fresh : hw < nextId
  ent : ∀ l e, e ∈ lists l → (e.cb = w ∨ e.id = hw) → e.cb = w ∧ e.id = hw ∧ l = lw

theorem LInv.harmless {w lw hw : Nat} {lists : Store SList} {n l : Nat} {e : Entry} (H : LInv w lw hw lists n)
    (he : e ∈ lists l) (hl : l ≠ lw) : e.cb ≠ w ∧ e.id ≠ hw :=
  ⟨fun h => hl (H.ent l e he (.inl h)).2.2, fun h => hl (H.ent l e he (.inr h)).2.2⟩

/-- `LInv` is kept, and an absent `hw` stays absent, when one list is replaced by entries that are harmless
    (another callback under another handle) or were in it -/
theorem LInv.upd {w lw hw : Nat} {lists : Store SList} {n n' l : Nat} {L' : SList} (H : LInv w lw hw lists n) (hn : n ≤ n')
    (hL : ∀ e ∈ L', (e.cb ≠ w ∧ e.id ≠ hw) ∨ e ∈ lists l) :
    LInv w lw hw (upd lists l L') n' ∧ ((lists lw).present hw = false → (upd lists l L' lw).present hw = false) := by
  refine ⟨⟨Nat.lt_of_lt_of_le H.fresh hn, fun l' e he hor => ?_⟩, fun hp => ?_⟩
  · rw [upd_get] at he
    split at he
    · next hl =>
      rcases hL e he with h | h
      · exact absurd hor (not_or.mpr h)
      · exact hl ▸ H.ent l e h hor
    · exact H.ent l' e he hor
  · rw [upd_get]
    split
    · next hl =>
      cases hq : L'.present hw with
      | false => rfl
      | true =>
        obtain ⟨e, he, hid⟩ := exists_of_present hq
        rcases hL e he with h | h
        · exact absurd hid h.2
        · rw [← hp, ← hid, hl]; exact (present_of_mem h).symm
    · exact hp

theorem apply_stack (c : SCfg) (busy : Nat → Bool) (cmd : Cmd) : (c.apply busy cmd).1.stack = c.stack :=
  (c.apply_fields busy cmd).2.2

theorem apply_linv {w lw hw : Nat} (c : SCfg) (busy : Nat → Bool) (cmd : Cmd)
    (H : LInv w lw hw c.lists c.nextId) (hok : CmdOK w lw cmd) :
    LInv w lw hw (c.apply busy cmd).1.lists (c.apply busy cmd).1.nextId ∧
    ((c.lists lw).present hw = false → ((c.apply busy cmd).1.lists lw).present hw = false) := by
  have hnew : ∀ cb, cb ≠ w → ∀ e : Entry, e = ⟨c.nextId, cb⟩ → e.cb ≠ w ∧ e.id ≠ hw :=
    fun cb h e he => he ▸ ⟨h, Nat.ne_of_gt H.fresh⟩
  cases cmd with
  | append l cb =>
    exact H.upd (Nat.le_succ _) fun e he => (List.mem_append.mp he).symm.imp
      (fun h => hnew cb hok e (List.mem_singleton.mp h)) id
  | prepend l cb =>
    exact H.upd (Nat.le_succ _) fun e he => (List.mem_cons.mp he).imp (hnew cb hok e) id
  | insert l cb b =>
    simp only [SCfg.apply]
    split
    · exact ⟨H, id⟩
    · exact H.upd (Nat.le_succ _) fun e he => (mem_insert.mp he).imp (hnew cb hok e) id
  | remove l h =>
    simp only [SCfg.apply]
    split
    · exact ⟨H, id⟩
    · exact H.upd (Nat.le_refl _) fun e he => .inr (mem_erase.mp (remove_fst _ h ▸ he)).1
  | owns l h => simp only [SCfg.apply]; split <;> exact ⟨H, id⟩
  | empty l => exact ⟨H, id⟩
  | invoke l a => exact ⟨H, id⟩
  | enum l a => exact ⟨H, id⟩
  | setCounter l k => exact ⟨H, id⟩
  | copyAssign dst src =>
    simp only [SCfg.apply]
    split
    · exact ⟨H, id⟩
    · refine H.upd (Nat.le_add_right _ _) fun e he => .inl ?_
      -- a clone has the callback of an entry of `src ≠ lw` and a new handle
      obtain ⟨e', h2, h3⟩ := List.mem_map.mp (cloneWith_cbs _ _ ▸ List.mem_map_of_mem (f := Entry.cb) he)
      exact ⟨h3 ▸ (H.harmless h2 hok.2).1,
        fun hid => Nat.not_le.mpr H.fresh (hid ▸ (cloneWith_fresh (mem_ids_of_mem he)).1)⟩
  | moveAssign dst src =>
    simp only [SCfg.apply]
    split
    · exact ⟨H, id⟩
    · -- `src ≠ lw`: what moves is harmless wherever it goes
      have H1 := H.upd (l := dst) (Nat.le_refl _) fun e he => .inl (H.harmless he hok.2)
      have H2 := H1.1.upd (l := src) (Nat.le_refl _) fun _ he => (List.not_mem_nil he).elim
      exact ⟨H2.1, H2.2 ∘ H1.2⟩
  | swap a b =>
    simp only [SCfg.apply]
    split
    · exact ⟨H, id⟩
    · have H1 := H.upd (l := a) (Nat.le_refl _) fun e he => .inl (H.harmless he hok.2)
      have H2 := H1.1.upd (l := b) (Nat.le_refl _) fun e he => .inl (H.harmless he hok.1)
      exact ⟨H2.1, H2.2 ∘ H1.2⟩

/-- programs on the stack are `Clean`; a running traversal can still meet `w` only as entry
    `⟨hw, w⟩` of `lw`, and only in an invocation (`honour = false`), never in an enumeration -/
def WFrameOK (w lw hw : Nat) : SFrame → Prop
  | .prog p => Clean w lw p
  | .wait k => ∀ r, Clean w lw (k r)
  | .iter l rest _ honour => ∀ e ∈ rest, e.cb = w → e.id = hw ∧ l = lw ∧ honour = false

/-- the top frame is a program whose next command is `remove lw hw` -/
def AboutToRemove (lw hw : Nat) (st : List SFrame) : Prop :=
  ∃ k rest, st = .prog (.op (.remove lw hw) k) :: rest

/-- The C16 invariant: once some recorded call of `w` has found its test true (`fired`), `hw` is
    gone from `lw` or the very next command removes it; until then every call of `w` is an invocation
    of `⟨hw, w⟩` on `lw` (`TraceOK`), which `linv` and `frames` keep true of the calls still to come. -/
structure WInv (w lw hw : Nat) (due : Call → Nat → Bool) (c : SCfg) : Prop where
  linv : LInv w lw hw c.lists c.nextId
  frames : ∀ f ∈ c.stack, WFrameOK w lw hw f
  trace : TraceOK w lw hw due c.trace
  fired : fired w due c.trace = true →
    (c.lists lw).present hw = false ∨ AboutToRemove lw hw c.stack

variable {w lw hw : Nat} {due : Call → Nat → Bool}

theorem deliver_winv {c : SCfg} (H : WInv w lw hw due c) {below : List SFrame}
    (hb : ∀ f ∈ below, WFrameOK w lw hw f) (hna : ¬ AboutToRemove lw hw c.stack) (r : Res) :
    WInv w lw hw due (c.deliver r below) := by
  have hnp : fired w due c.trace = true → (c.lists lw).present hw = false := fun hf =>
    (H.fired hf).resolve_right hna
  unfold SCfg.deliver
  split
  · obtain ⟨hk, hrest⟩ := List.forall_mem_cons.mp hb
    exact ⟨H.linv, List.forall_mem_cons.mpr ⟨hk r, hrest⟩, H.trace, fun hf => .inl (hnp hf)⟩
  · exact ⟨H.linv, hb, H.trace, fun hf => .inl (hnp hf)⟩

theorem seekCall_winv {inner : Beh} (hin : ∀ call nth, Clean w lw (inner call nth))
    {c : SCfg} (H : WInv w lw hw due c) {below : List SFrame}
    (hb : ∀ f ∈ below, WFrameOK w lw hw f) (hna : ¬ AboutToRemove lw hw c.stack)
    {l : Nat} {snap : List Entry} {honour : Bool}
    (hsnap : ∀ e ∈ snap, e.cb = w → e.id = hw ∧ l = lw ∧ honour = false) (arg : Nat) :
    WInv w lw hw due (SCfg.seekCall (wrapBeh w due inner) c l snap arg honour below) := by
  have hnp : fired w due c.trace = true → (c.lists lw).present hw = false := fun hf =>
    (H.fired hf).resolve_right hna
  rcases SCfg.seekCall_cases (wrapBeh w due inner) c l snap arg honour below with ⟨e, es, hmem, hes, hpres, heq⟩ | ⟨_, heq⟩
  · rw [heq]
    have he := hsnap e hmem
    refine ⟨H.linv, List.forall_mem_cons.mpr ⟨wrapBeh_clean hin _ _, List.forall_mem_cons.mpr
      ⟨fun x hx => hsnap x (hes x hx), hb⟩⟩, ⟨?_, H.trace⟩, ?_⟩
    · intro hcb
      obtain ⟨h1, h2, h3⟩ := he hcb
      refine ⟨h3, h2, h1, ?_⟩
      cases hf : fired w due c.trace with
      | false => rfl
      | true => rw [← h2, ← h1, hpres] at hnp; cases hnp hf
    · intro hf
      rcases Bool.or_eq_true_iff.mp hf with hf | hf
      · obtain ⟨hcb, hdue⟩ := Bool.and_eq_true_iff.mp hf
        have hcb : e.cb = w := beq_iff_eq.mp hcb
        obtain ⟨h1, h2, h3⟩ := he hcb
        refine .inr ⟨fun _ => inner ⟨l, e.id, e.cb, arg, honour⟩ (countCalls c.trace e.cb),
          .iter l es arg honour :: below, ?_⟩
        have hcnt : countCalls c.trace e.cb = countCalls c.trace w := by rw [hcb]
        show SFrame.prog (wrapBeh w due inner _ _) :: _ = _
        unfold wrapBeh
        rw [if_pos ⟨hcb, h3, hcnt ▸ hdue⟩, h1, h2]
      · exact .inl (hnp hf)
  · rw [heq]; exact deliver_winv H hb hna _

theorem apply_remove_absent {c : SCfg} (H : LInv w lw hw c.lists c.nextId) (busy : Nat → Bool) :
    ((c.apply busy (.remove lw hw)).1.lists lw).present hw = false := by
  -- `hw` is in no other list, so the machine does not skip the command as foreign
  have hnf : c.foreign lw hw = false := by
    unfold SCfg.foreign
    rw [List.any_eq_false]
    intro l' _
    simp only [Bool.and_eq_true, bne_iff_ne, ne_eq, not_and, Bool.not_eq_true]
    intro hne
    cases hq : (c.lists l').present hw with
    | false => rfl
    | true =>
      obtain ⟨e, he, hid⟩ := exists_of_present hq
      exact absurd (H.ent l' e he (.inr hid)).2.2 hne
  simp only [SCfg.apply, hnf]
  simp [remove_fst, present_erase]

theorem winv_step {inner : Beh} (hin : ∀ call nth, Clean w lw (inner call nth))
    {c c' : SCfg} (H : WInv w lw hw due c) (hs : SCfg.step (wrapBeh w due inner) c = some c') :
    WInv w lw hw due c' := by
  have hfr := H.frames
  rcases SCfg.step_inv hs with ⟨v, st, hst, rfl⟩ | ⟨v, l, snap, arg, ho, below, hst, hc⟩ |
    ⟨l, arg, ho, k, rest, hst, rfl⟩ | ⟨cmd, k, rest, hst, rfl⟩
  -- a program returns and its frame is popped
  · exact ⟨H.linv, fun f hf => H.frames f (hst ▸ List.mem_cons_of_mem _ hf), H.trace,
      fun hf => .inl ((H.fired hf).resolve_right fun ⟨_, _, e⟩ => by cases hst.symm.trans e)⟩
  -- a callback returns into its traversal, which stops or seeks the next entry still present
  · rw [hst] at hfr
    have hna : ¬ AboutToRemove lw hw c.stack := fun ⟨_, _, e⟩ => by cases hst.symm.trans e
    obtain ⟨_, hsnap, hb⟩ := List.forall_mem_cons.mp hfr |>.imp_right List.forall_mem_cons.mp
    rcases hc with rfl | rfl
    · exact deliver_winv H hb hna _
    · exact seekCall_winv hin H hb hna hsnap arg
  -- an invocation (`ho = false`) or an enumeration starts; `CmdOK` excludes an enumeration of `lw`
  · rw [hst] at hfr
    obtain ⟨hp, hb⟩ := List.forall_mem_cons.mp hfr
    obtain ⟨hok, hk⟩ := hp.inv
    refine seekCall_winv hin H (below := .wait k :: rest) (List.forall_mem_cons.mpr ⟨hk, hb⟩)
      (fun ⟨_, _, e⟩ => by cases ho <;> cases hst.symm.trans e) ?_ arg
    · intro e he hcb
      have := H.linv.ent l e he (.inl hcb)
      cases ho
      · exact ⟨this.2.1, this.2.2, rfl⟩
      · exact absurd this.2.2 hok
  -- any other command is executed; after the wrapper has fired it can be the self-removal
  · rw [hst] at hfr
    obtain ⟨hp, hb⟩ := List.forall_mem_cons.mp hfr
    obtain ⟨hok, hk⟩ := hp.inv
    have hl := apply_linv c (busyOn SFrame.isIterOn rest) cmd H.linv hok
    refine ⟨hl.1, List.forall_mem_cons.mpr ⟨hk _, hb⟩, ?_, fun hf => .inl ?_⟩
    · show TraceOK w lw hw due (.res _ :: (c.apply (busyOn SFrame.isIterOn rest) cmd).1.trace)
      rw [SCfg.apply_trace]; exact H.trace
    · have hf : fired w due (.res (c.apply (busyOn SFrame.isIterOn rest) cmd).2 ::
          (c.apply (busyOn SFrame.isIterOn rest) cmd).1.trace) = true := hf
      rw [SCfg.apply_trace] at hf
      rcases H.fired hf with hp | ⟨k', rest', e⟩
      · exact hl.2 hp
      · cases hst.symm.trans e
        exact apply_remove_absent H.linv _

theorem winv_runN {inner : Beh} (hin : ∀ call nth, Clean w lw (inner call nth)) :
    ∀ (k : Nat) {c : SCfg}, WInv w lw hw due c → WInv w lw hw due (SCfg.runN (wrapBeh w due inner) k c).1
  | 0, _, H => H
  | k + 1, c, H => by
    unfold SCfg.runN
    cases hs : SCfg.step (wrapBeh w due inner) c with
    | none => exact H
    | some c' => exact winv_runN hin k (winv_step hin H hs)

theorem winv_run {inner : Beh} (hin : ∀ call nth, Clean w lw (inner call nth)) {c0 : SCfg} {p : Prog}
    (hstack : c0.stack = [.prog p]) (hp : Clean w lw p) (hfresh : hw < c0.nextId)
    (hent : ∀ l e, e ∈ c0.lists l → (e.cb = w ∨ e.id = hw) → e.cb = w ∧ e.id = hw ∧ l = lw)
    (hcount : countCalls c0.trace w = 0) (k : Nat) :
    WInv w lw hw due (SCfg.runN (wrapBeh w due inner) k c0).1 := by
  have ht := traceOK_of_count_zero (lw := lw) (hw := hw) (due := due) c0.trace hcount
  refine winv_runN hin k ⟨⟨hfresh, hent⟩, fun f hf => ?_, ht.1, fun hf => by rw [ht.2] at hf; cases hf⟩
  rw [hstack] at hf
  cases List.mem_singleton.mp hf
  exact hp

theorem counter_trace (n : Int) : ∀ (tr : List Ev),
    TraceOK w lw hw (fun _ k => counterDue n k) tr →
    countCalls tr w ≤ (max n 1).toNat ∧
    (fired w (fun _ k => counterDue n k) tr = true ↔ countCalls tr w = (max n 1).toNat)
  | [], _ => by
    have : countCalls [] w = 0 := rfl
    exact ⟨Nat.zero_le _, ⟨fun h => (by cases h), fun h => (by omega)⟩⟩
  | .res r :: tr, h => counter_trace n tr h
  | .call cl :: tr, h => by
    have ih := counter_trace n tr h.2
    have h1 := ih.1
    rw [countCalls_call]
    by_cases hcb : cl.cb = w
    · have hnf := (h.1 hcb).2.2.2
      have hlt : countCalls tr w ≠ (max n 1).toNat := fun e => by rw [ih.2.mpr e] at hnf; cases hnf
      rw [if_pos hcb, fired_call, hnf, Bool.or_false, beq_iff_eq.mpr hcb, Bool.true_and, counterDue_eq,
        decide_eq_true_eq]
      omega
    · rw [if_neg hcb, fired_call, beq_false_of_ne hcb, Bool.false_and, Bool.false_or]
      exact ih

theorem fired_cond_iff (cond : Nat → Bool) : ∀ (tr : List Ev),
    fired w (fun cl _ => cond cl.arg) tr = true ↔ ∃ cl, Ev.call cl ∈ tr ∧ cl.cb = w ∧ cond cl.arg = true
  | [] => by simp [fired]
  | .res r :: tr => by
    have ih := fired_cond_iff cond tr
    simp only [fired, ih, List.mem_cons]
    constructor
    · rintro ⟨cl, h⟩; exact ⟨cl, Or.inr h.1, h.2⟩
    · rintro ⟨cl, h | h, h2⟩
      · cases h
      · exact ⟨cl, h, h2⟩
  | .call c0 :: tr => by
    have ih := fired_cond_iff cond tr
    simp only [fired, Bool.or_eq_true, Bool.and_eq_true, beq_iff_eq, ih, List.mem_cons]
    constructor
    · rintro (h | ⟨cl, h⟩)
      · exact ⟨c0, Or.inl rfl, h⟩
      · exact ⟨cl, Or.inr h.1, h.2⟩
    · rintro ⟨cl, h | h, h2⟩
      · cases h; exact Or.inl h2
      · exact Or.inr ⟨cl, h, h2⟩

theorem traceOK_split : ∀ (tr1 : List Ev) {cl : Call} {tr2 : List Ev},
    TraceOK w lw hw due (tr1 ++ .call cl :: tr2) → cl.cb = w →
    cl.enum = false ∧ cl.list = lw ∧ cl.h = hw ∧ fired w due tr2 = false
  | [], _, _, h, hcb => h.1 hcb
  | .res _ :: tr1, _, _, h, hcb => traceOK_split tr1 (by exact h) hcb
  | .call _ :: tr1, _, _, h, hcb => traceOK_split tr1 h.2 hcb

/- The programs and configurations of the non-vacuity examples of Properties/C16.lean. -/

/-- the calls of a trace, oldest first, as (callback id, argument) -/
def calls (tr : List Ev) : List (Cb × Nat) :=
  tr.reverse.filterMap (fun | .call c => some (c.cb, c.arg) | .res _ => none)

def innerPlain : Beh := fun _ _ => .ret true

def innerNested : Beh := fun call _ =>
  if call.cb = 1 then .op (.invoke 0 0) (fun _ => .ret true) else .ret true

/-- register callbacks 1 and 2 on list 0 (handles 0 and 1), then run `body` -/
def withTwo (body : Prog) : Prog := .op (.append 0 1) fun _ => .op (.append 0 2) fun _ => body

def invokes : List Nat → Prog
  | [] => .ret true
  | a :: r => .op (.invoke 0 a) fun _ => invokes r

theorem invokes_clean (w lw : Nat) : ∀ args, Clean w lw (invokes args)
  | [] => Clean.ret true
  | _ :: r => Clean.op _ _ trivial (fun _ => invokes_clean w lw r)

theorem innerNested_clean (call : Call) (nth : Nat) : Clean 1 0 (innerNested call nth) := by
  unfold innerNested
  split
  · exact Clean.op _ _ trivial (fun _ => Clean.ret true)
  · exact Clean.ret true

/-- list 0 holds `⟨0, 1⟩` (the wrapped listener) and `⟨1, 2⟩`; the program invokes it for `args` -/
def twoCfg (args : List Nat) : SCfg :=
  { lists := upd {} 0 [⟨0, 1⟩, ⟨1, 2⟩], nextId := 2, stack := [.prog (invokes args)] }

theorem twoCfg_ent (args : List Nat) : ∀ l e, e ∈ (twoCfg args).lists l → (e.cb = 1 ∨ e.id = 0) →
    e.cb = 1 ∧ e.id = 0 ∧ l = 0 := by
  intro l e he hor
  simp only [twoCfg, upd_get] at he
  split at he
  · rename_i hl
    simp only [List.mem_cons, List.mem_nil_iff, or_false] at he
    rcases he with rfl | rfl
    · exact ⟨rfl, rfl, hl⟩
    · simp at hor
  · rw [Store.empty_get] at he; cases he

end Evp.Wrap
