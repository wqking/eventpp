import EventppVerif.Properties.C01
import EventppVerif.Properties.C02
import EventppVerif.Properties.C02bridge
import EventppVerif.Properties.C03
import EventppVerif.Properties.C03slot
import EventppVerif.Properties.C03spin
import EventppVerif.Properties.C04
import EventppVerif.Properties.C04bridge
import EventppVerif.Properties.C05
import EventppVerif.Properties.C06
import EventppVerif.Properties.C07
import EventppVerif.Properties.C08
import EventppVerif.Properties.C08acyclic
import EventppVerif.Properties.C08q
import EventppVerif.Properties.C09
import EventppVerif.Properties.C10
import EventppVerif.Properties.C10q
import EventppVerif.Properties.C11
import EventppVerif.Properties.C11s
import EventppVerif.Properties.C12
import EventppVerif.Properties.C12cl
import EventppVerif.Properties.C13
import EventppVerif.Properties.C14
import EventppVerif.Properties.C14s
import EventppVerif.Properties.C15
import EventppVerif.Properties.C16
import EventppVerif.Properties.C17
import EventppVerif.Properties.C18
import EventppVerif.Properties.C19
import EventppVerif.Properties.C20
import EventppVerif.CL.WFCheck
